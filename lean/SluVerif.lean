import SluVerif.Model.Perm
import SluVerif.Model.Check
import SluVerif.Model.Sparse
import SluVerif.Props.Checkers
import SluVerif.Model.Pivot
import SluVerif.Proofs.ArrayLemmas
import SluVerif.Proofs.ListLemmas
import SluVerif.Proofs.SparseWf
import SluVerif.Proofs.PivotLemmas
import SluVerif.Props.C02
import SluVerif.Model.LU
import SluVerif.Proofs.LULemmas
import SluVerif.Proofs.LUInv
import SluVerif.Props.LU
import SluVerif.Props.C06
import SluVerif.Gen.Consts
import SluVerif.Model.Sched
import SluVerif.Model.SchedSys
import SluVerif.Proofs.SchedArray
import SluVerif.Props.C04
import SluVerif.Props.C09
import SluVerif.Model.Fixup
import SluVerif.Props.C09Fixup
import SluVerif.Model.ArgBase
import SluVerif.Gen.ArgCheck
import SluVerif.Model.ArgDoc
import SluVerif.Proofs.ArgLemmas
import SluVerif.Proofs.ArgCoded
import SluVerif.Proofs.ArgChain
import SluVerif.Props.C15
import SluVerif.Model.Equil
import SluVerif.Proofs.FoldMax
import SluVerif.Proofs.EquilBasic
import SluVerif.Proofs.EquilRows
import SluVerif.Proofs.EquilGsequ
import SluVerif.Props.C11
import SluVerif.Model.Alloc
import SluVerif.Props.C05
import SluVerif.Props.C05Dyn
import SluVerif.Props.C16
import SluVerif.Props.C08
import SluVerif.Model.Read
import SluVerif.Model.ReadWrite
import SluVerif.Proofs.ReadBasic
import SluVerif.Proofs.ReadFormat
import SluVerif.Proofs.ReadSlice
import SluVerif.Proofs.ReadDec
import SluVerif.Proofs.ReadHeader
import SluVerif.Proofs.ReadBody
import SluVerif.Proofs.ReadMT
import SluVerif.Props.C20
import SluVerif.Model.Lacon
import SluVerif.Model.Growth
import SluVerif.Proofs.LaconBasic
import SluVerif.Proofs.LaconTerm
import SluVerif.Proofs.LaconUpper
import SluVerif.Proofs.LaconLower
import SluVerif.Props.C12
import SluVerif.Model.Rfs
import SluVerif.Proofs.GrowthBasic
import SluVerif.Proofs.RfsBasic
import SluVerif.Proofs.GrowthSpec
import SluVerif.Props.C13
import SluVerif.Model.Etree
import SluVerif.Proofs.EtreeBasic
import SluVerif.Proofs.Postorder
import SluVerif.Proofs.Forest
import SluVerif.Proofs.PostorderMain
import SluVerif.Proofs.Relabel
import SluVerif.Proofs.Colorder
import SluVerif.Proofs.UnionFind
import SluVerif.Proofs.Blocks
import SluVerif.Proofs.Fill
import SluVerif.Proofs.EtreeRef
import SluVerif.Proofs.Liu
import SluVerif.Proofs.LiuInst
import SluVerif.Proofs.PostorderedIC
import SluVerif.Proofs.Reorder
import SluVerif.Props.C10
import SluVerif.Model.Blas
import SluVerif.Proofs.BlasMem
import SluVerif.Proofs.BlasGemvOps
import SluVerif.Proofs.BlasGemv
import SluVerif.Proofs.BlasCx
import SluVerif.Proofs.BlasLangs
import SluVerif.Proofs.BlasConv
import SluVerif.Proofs.BlasCopy
import SluVerif.Proofs.BlasTrsvAbs
import SluVerif.Proofs.BlasTrsvKern
import SluVerif.Proofs.BlasTrsvMat
import SluVerif.Proofs.BlasTrsvStep
import SluVerif.Proofs.BlasTrsvSweep
import SluVerif.Proofs.BlasTrsvWf
import SluVerif.Props.C19
import SluVerif.Proofs.SchedFrame
import SluVerif.Proofs.SchedSysLemmas
import SluVerif.Proofs.SchedInv
import SluVerif.Proofs.SchedInvSched
import SluVerif.Proofs.SchedInit
import SluVerif.Props.C04Global
import SluVerif.Proofs.SchedProgLemmas
import SluVerif.Proofs.SchedProg
import SluVerif.Proofs.SchedProgInit
import SluVerif.Model.UserStack
import SluVerif.Props.C14
import SluVerif.Props.C01
import SluVerif.Props.C18
import SluVerif.Model.Ledger
import SluVerif.Props.C17
import SluVerif.Proofs.SchedMeasure
import SluVerif.Proofs.SchedPipe
import SluVerif.Model.SchedInit3
import SluVerif.Props.C03Global
import SluVerif.Proofs.RelaxSnode
import SluVerif.Proofs.PanelWidth
import SluVerif.Proofs.InitCursor
import SluVerif.Model.CheckC
import SluVerif.Props.CheckersC
