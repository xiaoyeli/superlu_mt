/-
C04 / C03 — system level: for every configuration whose initial state passes `initOk`, every number of workers and every
interleaving, each `global_*` below reads a clause of `SysInv` in every reachable state.  `initOk` is evaluated by the
driver on the model's `parallelInit c`, which the harness compares with the state the real `ParallelInit` produces.
`global_handouts_nodup` is "at most once" only (that every panel is handed out is not proved);
`global_children_started` is the pipelining precondition of C03.
-/
import SluVerif.Proofs.SchedInit

namespace Slu
open Slu.Gen
open Classical

theorem sysInv_step (K : Cfg) (W : CfgWF K) (s : Sys) (inv : SysInv K s) (e : Ev) : SysInv K (step K.c s e) :=
  step_cases K.c s e inv (sysInv_loop K W s inv) (sysInv_sched K W s inv) (sysInv_finish K W s inv)

theorem sysInv_run (K : Cfg) (W : CfgWF K) (s : Sys) (inv : SysInv K s) (evs : List Ev) : SysInv K (runEv K.c s evs) :=
  List.foldlRecOn evs (step K.c) inv fun s inv e _ => sysInv_step K W s inv e

theorem global_invariant (c : PanelCfg) (sh : Sh) (nw : Nat) (h : initOk c sh = true) (evs : List Ev) :
    SysInv (cfgOf c sh) (runEv c (sysOf sh nw) evs) :=
  sysInv_run (cfgOf c sh) (cfgWF_of_initOk c sh h) (sysOf sh nw) (sysInv_of_initOk c sh nw h) evs

theorem global_tasks_remain (c : PanelCfg) (sh : Sh) (nw : Nat) (h : initOk c sh = true) (evs : List Ev) :
    (runEv c (sysOf sh nw) evs).sh.tasksRemain =
      (((panelsOf c.n sh).filter (fun p => decide (getN (runEv c (sysOf sh nw) evs).sh.state p > BUSY))).length : Int) := by
  have inv := global_invariant c sh nw h evs
  rw [inv.tasks]
  refine congrArg Nat.cast (cnt_eq_filter _ _ _ (fun q _ => ?_))
  simp only [decide_eq_true_eq]
  rfl

theorem global_queue_bounded (c : PanelCfg) (sh : Sh) (nw : Nat) (h : initOk c sh = true) (evs : List Ev) :
    let s := runEv c (sysOf sh nw) evs
    s.sh.head ≤ s.sh.tail ∧ s.sh.tail ≤ c.n ∧ s.sh.count = ((s.sh.tail : Int) - (s.sh.head : Int)) ∧ s.sh.queue.size = c.n ∧
    (qlist s.sh).Nodup ∧ ∀ k, k < s.sh.tail → getN s.sh.queue k ∈ panelsOf c.n sh := by
  intro s
  have inv := global_invariant c sh nw h evs
  have W := cfgWF_of_initOk c sh h
  exact ⟨inv.qok.1, queue_tail_le (cfgOf c sh) W s inv, inv.qok.2, inv.qsz, inv.qnodup, inv.qpan⟩

theorem global_owner_unique (c : PanelCfg) (sh : Sh) (nw : Nat) (h : initOk c sh = true) (evs : List Ev) :
    let s := runEv c (sysOf sh nw) evs
    (∀ p ∈ panelsOf c.n sh, getN s.sh.state p = BUSY → ∃ i b, (wk s i).phase = .working p b) ∧
    (∀ i i' p b b', (wk s i).phase = .working p b → (wk s i').phase = .working p b' → i = i') ∧
    (∀ i p b, (wk s i).phase = .working p b → getN s.sh.state p = BUSY ∧ p ∈ panelsOf c.n sh) := by
  have inv := global_invariant c sh nw h evs
  refine ⟨inv.busy_owned, ?_, ?_⟩
  · intro i i' p b b' h1 h2
    exact inv.own_u i i' p (inv.own_w i p b h1).1 (inv.own_w i' p b' h2).1
  · intro i p b h1
    exact ⟨(inv.own_w i p b h1).2.1, (inv.own_w i p b h1).2.2⟩

theorem global_children_started (c : PanelCfg) (sh : Sh) (nw : Nat) (h : initOk c sh = true) (evs : List Ev) :
    let s := runEv c (sysOf sh nw) evs
    ∀ d ∈ panelsOf c.n sh, getN s.sh.state d ≠ UNREADY → ∀ q ∈ panelsOf c.n sh, dadPanel c sh q = d → getN s.sh.state q ≤ BUSY :=
  (global_invariant c sh nw h evs).closed

theorem global_parent_unready (c : PanelCfg) (sh : Sh) (nw : Nat) (h : initOk c sh = true) (evs : List Ev) :
    let s := runEv c (sysOf sh nw) evs
    ∀ q ∈ panelsOf c.n sh, getN s.sh.state q > BUSY → dadPanel c sh q < c.n → getN s.sh.state (dadPanel c sh q) = UNREADY := by
  intro s q hq hgt hdn
  have inv := global_invariant c sh nw h evs
  have W := cfgWF_of_initOk c sh h
  by_contra hne
  have := inv.closed (dadPanel c sh q) (W.dad_pan q hq hdn) hne q hq rfl
  have h' : getN s.sh.state q ≤ BUSY := this
  omega

/-- the panel handed out by event `e` in state `s`, if any -/
def handout (c : PanelCfg) (s : Sys) : Ev → Option Nat
  | .sched w => if enabled c s (.sched w) then (schedule c s.sh (wk s w).cur 0).2.1 else none
  | _ => none

/-- the panels handed out along a run, in order -/
def handouts (c : PanelCfg) : Sys → List Ev → List Nat
  | _, [] => []
  | s, e :: es => (match handout c s e with | some j => [j] | none => []) ++ handouts c (step c s e) es

theorem taken_monotone (K : Cfg) (W : CfgWF K) (s : Sys) (inv : SysInv K s) (e : Ev) (p : Nat)
    (hp : stt s p ≤ BUSY) : stt (step K.c s e) p ≤ BUSY := by
  refine step_cases (P := fun s' => stt s' p ≤ BUSY) K.c s e hp (fun w h => ?_) (fun w h => ?_) (fun w h => ?_)
  · obtain ⟨ws', e, _⟩ := loop_effect K.c s w h
    rw [e]; exact hp
  · obtain ⟨got, b, E⟩ := sched_effect K W s inv w h
    exact (E.le_same hp).trans_le hp
  · obtain ⟨p', b, ws', e, E⟩ := finish_effect K.c s w h
    rw [e]
    exact Nat.not_lt.1 (fun hgt => Nat.not_lt.2 hp ((finish_gt_iff W inv E p).1 hgt))

theorem handout_untaken (K : Cfg) (W : CfgWF K) (s : Sys) (inv : SysInv K s) (e : Ev) (j : Nat)
    (hj : handout K.c s e = some j) : stt s j > BUSY ∧ stt (step K.c s e) j = BUSY := by
  cases e with
  | loop w => cases hj
  | finish w => cases hj
  | sched w =>
    have hj' : (if enabled K.c s (.sched w) then (schedule K.c s.sh (wk s w).cur 0).2.1 else none) = some j := hj
    split at hj'
    · next h =>
      obtain ⟨got, b, E⟩ := sched_effect K W s inv w h
      exact E.took (E.got_eq.symm.trans hj')
    · cases hj'

theorem handouts_nodup (K : Cfg) (W : CfgWF K) (evs : List Ev) :
    ∀ s, SysInv K s → (handouts K.c s evs).Nodup ∧ ∀ j ∈ handouts K.c s evs, stt s j > BUSY := by
  induction evs with
  | nil => intro s _; exact ⟨List.nodup_nil, fun j hj => by cases hj⟩
  | cons e es ih =>
    intro s inv
    obtain ⟨ih1, ih2⟩ := ih (step K.c s e) (sysInv_step K W s inv e)
    have hback : ∀ j, stt (step K.c s e) j > BUSY → stt s j > BUSY := by
      intro j hj
      by_contra hle
      have := taken_monotone K W s inv e j (by omega)
      omega
    unfold handouts
    cases hh : handout K.c s e with
    | none =>
      exact ⟨ih1, fun j hj => hback j (ih2 j hj)⟩
    | some j0 =>
      obtain ⟨h1, h2⟩ := handout_untaken K W s inv e j0 hh
      refine ⟨List.nodup_cons.2 ⟨?_, ih1⟩, ?_⟩
      · intro hmem
        exact Nat.lt_irrefl BUSY (h2 ▸ ih2 j0 hmem)
      · intro j hj
        rcases List.mem_cons.1 hj with e1 | e1
        · rw [e1]; exact h1
        · exact hback j (ih2 j e1)

theorem global_handouts_nodup (c : PanelCfg) (sh : Sh) (nw : Nat) (h : initOk c sh = true) (evs : List Ev) :
    (handouts c (sysOf sh nw) evs).Nodup :=
  (handouts_nodup (cfgOf c sh) (cfgWF_of_initOk c sh h) evs (sysOf sh nw) (sysInv_of_initOk c sh nw h)).1

/-! satisfiable: two configurations pass `initOk`, and a run hands out panels -/
/-- 0, 1 under 2; 3, 4 under 5; 2, 5 under the root 6 -/
def exCfg2 : PanelCfg := { n := 7, etree := #[2, 2, 6, 5, 5, 6, 7], panelSize := 2, relax := 1 }
example : initOk exCfg (parallelInit exCfg) = true := by decide +kernel
example : initOk exCfg2 (parallelInit exCfg2) = true := by decide +kernel
example : handouts exCfg2 (sysOf (parallelInit exCfg2) 2)
    [.loop 0, .sched 0, .loop 1, .sched 1, .finish 0, .loop 0, .sched 0, .finish 1, .loop 1, .sched 1] = [0, 1, 3, 2] := by decide +kernel
end Slu
