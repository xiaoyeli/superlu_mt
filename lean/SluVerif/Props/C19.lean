/-
Property C19 — sparse kernels and format utilities agree with their dense definitions.  Theorems about
Model/Blas.lean (what `sludrv blas` runs against the real routines).  Scalars: any commutative ring (`Int`, `Rat`,
complex pairs `Cx β`); the triangular solves are over `Rat`.
-/
import SluVerif.Proofs.BlasCx
import SluVerif.Proofs.BlasLangs
import SluVerif.Proofs.BlasConv
import SluVerif.Proofs.BlasCopy
import SluVerif.Proofs.BlasTrsvSweep
import SluVerif.Proofs.BlasTrsvWf
import Mathlib.Data.Matrix.Mul
import Mathlib.Algebra.BigOperators.Fin
namespace Slu.Blas
open Finset

section Gemv
variable {α : Type} [CommRing α] [DecidableEq α]

/-- sp_?gemv, trans = 'N' (`incy = 1`, any non-zero `incx`, any base offsets): `y := alpha*A*x + beta*y` on the `m`
cells of `y`, every other cell left alone, for every alpha and beta (the shortcuts included). -/
theorem spGemv_spec_N (trans : Char) (alpha beta : α) (A : NCMat α) (x y : Array α) (xoff yoff : Nat)
    (incx : Int) (m n : Nat)
    (hN : lsame trans 'N' = true) (hm : A.nrow = (m : Int)) (hn : A.ncol = (n : Int))
    (hm0 : m ≠ 0) (hn0 : n ≠ 0) (hix : incx ≠ 0) (hrows : A.rowsOk) (hy : yoff + m ≤ y.size) :
    ∃ y', spGemvAt trans alpha A x xoff incx beta y yoff 1 = .ok y' ∧ y'.size = y.size ∧
      (∀ i < m, rd y' (yoff + i)
          = alpha * ∑ j ∈ range n, A.dense i j * rd x (xoff + spos (n : Int) incx j) + beta * rd y (yoff + i)) ∧
      (∀ q, (∀ i < m, q ≠ yoff + i) → rd y' q = rd y q) := by
  have hmT : A.nrow.toNat = m := by rw [hm]; exact Int.toNat_natCast m
  have hnT : A.ncol.toNat = n := by rw [hn]; exact Int.toNat_natCast n
  rw [spGemvAt_of_ok ⟨Or.inl hN, by omega, by omega, hix, one_ne_zero⟩]
  unfold gemvRun
  simp only [hN, if_true, hm]
  obtain ⟨s1, s2, s3⟩ := scaleY_spec beta m 1 yoff y one_ne_zero
    (Or.inr (by rw [Int.natAbs_one, Nat.mul_one]; omega))
  simp only [spos_one] at s2 s3
  obtain ⟨g1, g2, g3⟩ := gemvN_spec alpha A x xoff incx yoff (scaleY beta (m : Int) 1 yoff y) hrows
    (by rw [s1, hmT]; exact hy)
  rw [hmT, hn] at g2
  rw [hmT] at g3
  exact gemv_finish alpha beta y m (fun i => yoff + i)
    (fun h => (h.resolve_left (by omega)).resolve_left (by omega)) ⟨s1, s2, s3⟩ ⟨g1, g2, g3⟩

/-- sp_?gemv, trans = 'T' or 'C' (`incx = 1`, any non-zero `incy`): `y := alpha*Aᵀ*x + beta*y` on the `n` strided
cells of `y`, every other cell left alone.  The model treats 'C' like 'T'; the complex routines conjugate `A` for 'C'
(`zsp_blas2.c:566`) and the driver hands the model conj(A) (`opGemv`), a step no theorem covers. -/
theorem spGemv_spec_T (trans : Char) (alpha beta : α) (A : NCMat α) (x y : Array α) (xoff yoff : Nat)
    (incy : Int) (m n : Nat)
    (hN : lsame trans 'N' = false) (hT : lsame trans 'T' = true ∨ lsame trans 'C' = true)
    (hm : A.nrow = (m : Int)) (hn : A.ncol = (n : Int))
    (hm0 : m ≠ 0) (hn0 : n ≠ 0) (hiy : incy ≠ 0) (hrows : A.rowsOk)
    (hy : yoff + (n - 1) * incy.natAbs < y.size) :
    ∃ y', spGemvAt trans alpha A x xoff 1 beta y yoff incy = .ok y' ∧ y'.size = y.size ∧
      (∀ j < n, rd y' (yoff + spos (n : Int) incy j)
          = alpha * ∑ i ∈ range m, A.dense i j * rd x (xoff + i) + beta * rd y (yoff + spos (n : Int) incy j)) ∧
      (∀ q, (∀ j < n, q ≠ yoff + spos (n : Int) incy j) → rd y' q = rd y q) := by
  have hmT : A.nrow.toNat = m := by rw [hm]; exact Int.toNat_natCast m
  rw [spGemvAt_of_ok ⟨Or.inr hT, by omega, by omega, one_ne_zero, hiy⟩]
  unfold gemvRun
  simp only [hN, Bool.false_eq_true, if_false, if_true, hn]
  obtain ⟨s1, s2, s3⟩ := scaleY_spec beta n incy yoff y hiy (Or.inr hy)
  obtain ⟨g1, g2, g3⟩ := gemvT_spec alpha A x xoff yoff incy (scaleY beta (n : Int) incy yoff y) n hn hiy hrows
    (by rw [s1]; exact Or.inr hy)
  rw [hmT] at g2
  exact gemv_finish alpha beta y n (fun j => yoff + spos (n : Int) incy j)
    (fun h => (h.resolve_left (by omega)).resolve_left (by omega)) ⟨s1, s2, s3⟩ ⟨g1, g2, g3⟩

/-- `lenx` (`gLenX`) and `leny` (`gLenY`) of the code: `n` and `m` for 'N', `m` and `n` otherwise -/
def gLenX (trans : Char) (m n : Nat) : Nat := if lsame trans 'N' then n else m
def gLenY (trans : Char) (m n : Nat) : Nat := if lsame trans 'N' then m else n
/-- `op(A)` of the model: `A` for 'N', `Aᵀ` for 'T' and 'C' (no conjugation) -/
def opDense (trans : Char) (A : NCMat α) (i j : Nat) : α := if lsame trans 'N' then A.dense i j else A.dense j i

/-- the accepted domain in one statement: valid `trans`, `m, n > 0`, non-zero increments with `incy = 1` for 'N' and
`incx = 1` for 'T'/'C'.  On it the model returns `y := alpha*op(A)*x + beta*y` on the strided cells of `y` (element `i`
at `yoff + spos leny incy i`, the index the C code computes) and nothing else changes. -/
theorem spGemv_spec (trans : Char) (alpha beta : α) (A : NCMat α) (x y : Array α) (xoff yoff : Nat)
    (incx incy : Int) (m n : Nat)
    (htr : lsame trans 'N' = true ∨ lsame trans 'T' = true ∨ lsame trans 'C' = true)
    (hm : A.nrow = (m : Int)) (hn : A.ncol = (n : Int)) (hm0 : m ≠ 0) (hn0 : n ≠ 0)
    (hix : incx ≠ 0) (hiy : incy ≠ 0)
    (hdom : if lsame trans 'N' = true then incy = 1 else incx = 1)
    (hrows : A.rowsOk)
    (hy : yoff + (gLenY trans m n - 1) * incy.natAbs < y.size) :
    ∃ y', spGemvAt trans alpha A x xoff incx beta y yoff incy = .ok y' ∧ y'.size = y.size ∧
      (∀ i < gLenY trans m n, rd y' (yoff + spos (gLenY trans m n : Int) incy i)
          = alpha * ∑ j ∈ range (gLenX trans m n),
                opDense trans A i j * rd x (xoff + spos (gLenX trans m n : Int) incx j)
            + beta * rd y (yoff + spos (gLenY trans m n : Int) incy i)) ∧
      (∀ q, (∀ i < gLenY trans m n, q ≠ yoff + spos (gLenY trans m n : Int) incy i) → rd y' q = rd y q) := by
  unfold gLenX gLenY opDense at *
  by_cases hN : lsame trans 'N' = true
  · simp only [hN, if_true] at hdom hy ⊢
    subst hdom
    simp only [spos_one]
    have hy' : yoff + m ≤ y.size := by
      rw [Int.natAbs_one, Nat.mul_one] at hy
      omega
    exact spGemv_spec_N trans alpha beta A x y xoff yoff incx m n hN hm hn hm0 hn0 hix hrows hy'
  · have hN' : lsame trans 'N' = false := by simpa using hN
    simp only [hN', Bool.false_eq_true, if_false] at hdom hy ⊢
    subst hdom
    simp only [spos_one]
    exact spGemv_spec_T trans alpha beta A x y xoff yoff incy m n hN' (by simpa [hN'] using htr) hm hn hm0 hn0 hiy
      hrows hy

end Gemv

section GemvOps
variable {α : Type} [Add α] [Mul α] [Zero α] [One α] [DecidableEq α]

/-- the model (like the code) ends in `SUPERLU_ABORT("Not implemented.")` exactly when the argument contract holds,
neither dimension is 0, `alpha ≠ 0`, and the increment of the output-side vector is not 1 (`incy` for 'N', `incx` for
'T'/'C').  Needs no algebraic law. -/
theorem spGemv_domain (trans : Char) (alpha beta : α) (A : NCMat α) (x y : Array α) (xoff yoff : Nat) (incx incy : Int) :
    spGemvAt trans alpha A x xoff incx beta y yoff incy = .notImplemented ↔
      gemvArgsOk trans A incx incy ∧ A.nrow ≠ 0 ∧ A.ncol ≠ 0 ∧ alpha ≠ 0 ∧
      (if lsame trans 'N' = true then incy ≠ 1 else incx ≠ 1) := by
  by_cases hok : gemvArgsOk trans A incx incy
  · rw [spGemvAt_of_ok hok, gemvRun_eq_notImplemented, and_iff_right hok]
  · obtain ⟨k, hk⟩ := spGemvAt_of_not_ok hok alpha beta x y xoff yoff
    rw [hk]
    exact ⟨nofun, fun h => absurd h.1 hok⟩

/-- the info codes of the argument check, in the order the code tests them -/
theorem spGemv_argcheck (trans : Char) (alpha beta : α) (A : NCMat α) (x y : Array α) (xoff yoff : Nat) (incx incy : Int) (k : Nat) :
    spGemvAt trans alpha A x xoff incx beta y yoff incy = .xerbla k ↔
      (k = 1 ∧ ¬ (lsame trans 'N' = true ∨ lsame trans 'T' = true ∨ lsame trans 'C' = true)) ∨
      (k = 3 ∧ (lsame trans 'N' = true ∨ lsame trans 'T' = true ∨ lsame trans 'C' = true) ∧ (A.nrow < 0 ∨ A.ncol < 0)) ∨
      (k = 5 ∧ (lsame trans 'N' = true ∨ lsame trans 'T' = true ∨ lsame trans 'C' = true) ∧ ¬ (A.nrow < 0 ∨ A.ncol < 0) ∧ incx = 0) ∨
      (k = 8 ∧ (lsame trans 'N' = true ∨ lsame trans 'T' = true ∨ lsame trans 'C' = true) ∧ ¬ (A.nrow < 0 ∨ A.ncol < 0) ∧ incx ≠ 0 ∧ incy = 0) := by
  rw [spGemvAt_eq]
  constructor
  · intro h
    split_ifs at h with hT hD hX hY  -- the negated first test comes last
    · cases h
      exact .inr (.inl ⟨rfl, hT, hD⟩)
    · cases h
      exact .inr (.inr (.inl ⟨rfl, hT, hD, hX⟩))
    · cases h
      exact .inr (.inr (.inr ⟨rfl, hT, hD, hX, hY⟩))
    · exact absurd h (gemvRun_ne_xerbla trans alpha beta A x y xoff yoff incx incy k)
    · cases h
      exact .inl ⟨rfl, hT⟩
  · rintro (⟨rfl, hT⟩ | ⟨rfl, hT, hD⟩ | ⟨rfl, hT, hD, hX⟩ | ⟨rfl, hT, hD, hX, hY⟩)
    · rw [if_pos hT]
    · rw [if_neg (not_not_intro hT), if_pos hD]
    · rw [if_neg (not_not_intro hT), if_neg hD, if_pos hX]
    · rw [if_neg (not_not_intro hT), if_neg hD, if_neg hX, if_pos hY]

/-- "when BETA is supplied as zero then Y need not be set on input", for any interpretation of the arithmetic (IEEE
NaN/Inf in `y` included): with `beta = 0` and both dimensions non-zero the outcome does not depend on the strided
cells of `y`. -/
theorem spGemv_beta_zero_y_unset (h01 : (0 : α) ≠ 1) (trans : Char) (alpha : α) (A : NCMat α) (x y y' : Array α)
    (xoff yoff : Nat) (incx incy : Int) (hne : A.nrow ≠ 0 ∧ A.ncol ≠ 0) (hs : y.size = y'.size)
    (hag : ∀ q, (∀ i < (if lsame trans 'N' then A.nrow else A.ncol).toNat,
        q ≠ yoff + spos (if lsame trans 'N' then A.nrow else A.ncol) incy i) → rd y q = rd y' q) :
    spGemvAt trans alpha A x xoff incx 0 y yoff incy = spGemvAt trans alpha A x xoff incx 0 y' yoff incy := by
  have hq : ¬ (A.nrow = 0 ∨ A.ncol = 0 ∨ (alpha = 0 ∧ (0 : α) = 1)) :=
    fun h => h.elim hne.1 fun h => h.elim hne.2 fun h => h01 h.2
  simp only [spGemvAt_eq, gemvRun, if_neg hq, scaleY_zero_congr h01 _ incy yoff y y' hs hag]

/-- with an empty operand `y` is returned untouched: the quick return is taken before `y := beta*y` -/
theorem spGemv_empty (trans : Char) (alpha beta : α) (A : NCMat α) (x y : Array α) (xoff yoff : Nat) (incx incy : Int)
    (hok : gemvArgsOk trans A incx incy) (hz : A.nrow = 0 ∨ A.ncol = 0) :
    spGemvAt trans alpha A x xoff incx beta y yoff incy = .ok y := by
  rw [spGemvAt_of_ok hok]
  exact if_pos (hz.elim .inl fun h => .inr (.inl h))

end GemvOps

/-- 2×3 example matrix: columns `(0↦1, 1↦2)`, `()`, `(1↦3)` -/
def exA : NCMat Int :=
  { nrow := 2, ncol := 3, nnz := 3, colptr := #[0, 2, 2, 3], rowind := #[0, 1, 1], nzval := #[1, 2, 3] }

theorem exA_rowsOk : exA.rowsOk := by unfold NCMat.rowsOk; decide

example : ∃ y', spGemvAt 'N' (2 : Int) exA #[1, 55, 1, 55, 1] 0 (-2) (-1) #[10, 20, 77] 0 1 = .ok y' ∧ y'.size = 3 := by
  obtain ⟨y', h1, h2, -, -⟩ := spGemv_spec 'N' (2 : Int) (-1) exA #[1, 55, 1, 55, 1] #[10, 20, 77] 0 0 (-2) 1 2 3
    (by decide) rfl rfl (by decide) (by decide) (by decide) (by decide) (by decide) exA_rowsOk (by decide)
  exact ⟨y', h1, h2⟩
example : spGemvAt 'N' (2 : Int) exA #[1, 55, 1, 55, 1] 0 (-2) (-1) #[10, 20, 77] 0 1 = .ok #[-8, -10, 77] := by decide
example : spGemvAt 't' (1 : Int) exA #[1, 1] 0 1 0 #[5, 77, 77, 5, 77, 77, 5] 0 (-3) = .ok #[3, 77, 77, 0, 77, 77, 3] := by decide
example : ∃ y', spGemvAt 't' (1 : Int) exA #[1, 1] 0 1 0 #[5, 77, 77, 5, 77, 77, 5] 0 (-3) = .ok y' ∧ y'.size = 7 := by
  obtain ⟨y', h1, h2, -, -⟩ := spGemv_spec 't' (1 : Int) 0 exA #[1, 1] #[5, 77, 77, 5, 77, 77, 5] 0 0 1 (-3) 2 3
    (by decide) rfl rfl (by decide) (by decide) (by decide) (by decide) (by decide) exA_rowsOk (by decide)
  exact ⟨y', h1, h2⟩

/-- finding `gemv-nonunit-stride-abort`: a valid call (`incy = 2`) ends in "Not implemented" -/
theorem spGemv_abort_example :
    spGemvAt 'N' (1 : Int) exA #[1, 1, 1] 0 1 1 #[0, 77, 0] 0 2 = .notImplemented := by decide
theorem spGemv_abort_example_T :
    spGemvAt 'T' (1 : Int) exA #[1, 77, 1] 0 2 1 #[0, 0, 0] 0 1 = .notImplemented := by decide

/-- finding `gemv-empty-operand-skips-beta`: `A` is 1×0, `beta = 2`: by definition `y = 2*y = [2]`, the code leaves
`[1]` -/
theorem spGemv_empty_counterexample :
    spGemvAt 'N' (1 : Int) { nrow := 1, ncol := 0, nnz := 0, colptr := #[0], rowind := #[], nzval := #[] }
      #[] 0 1 2 #[1] 0 1 = .ok #[1] := by decide

/-- the model's 'C' branch does not conjugate: on `A = [i]`, `x = [1]` it returns `+i` as for 'T', while `Aᴴx = -i`
(the driver hands it conj(A) for 'C', see `spGemv_spec_T`) -/
theorem spGemv_conj_counterexample :
    spGemvAt 'C' (1 : Cx Int) { nrow := 1, ncol := 1, nnz := 1, colptr := #[0, 1], rowind := #[0], nzval := #[⟨0, 1⟩] }
      #[1] 0 1 0 #[0] 0 1 = .ok #[⟨0, 1⟩]
    ∧ (Cx.conj (⟨0, 1⟩ : Cx Int)) * 1 = ⟨0, -1⟩ := by decide

example : spGemvAt 'N' (2 : Int) exA #[1, 1, 1] 0 1 0 #[10, 20] 0 1 = spGemvAt 'N' (2 : Int) exA #[1, 1, 1] 0 1 0 #[-7, 99] 0 1 :=
  spGemv_beta_zero_y_unset (by decide) 'N' 2 exA #[1, 1, 1] #[10, 20] #[-7, 99] 0 0 1 1 (by decide) rfl
    (by intro q hq
        have h0 := hq 0 (by decide); have h1 := hq 1 (by decide)
        have : 2 ≤ q := by
          simp only [spos_one] at h0 h1
          omega
        simp [rd, Array.getD, Nat.not_lt.mpr this])

section Gemm
variable {α : Type} [CommRing α] [DecidableEq α]

/-- the cells of column `j'` (leading dimension `ldc`) lie before column `j` -/
theorem col_disj (ldc j j' i' : Nat) {leny : Nat} (h : leny ≤ ldc) (hi' : i' < leny) (hjj' : j' < j) :
    ldc * j' + i' < ldc * j := by
  calc ldc * j' + i' < ldc * j' + ldc := by omega
    _ = ldc * (j' + 1) := by ring
    _ ≤ ldc * j := Nat.mul_le_mul_left _ hjj'

/-- the column loop over sp_?gemv computes `C := alpha*op(A)*B + beta*C` on the `leny × ncols` block of `C` (leading
dimension `ldc`), touches nothing else, never aborts (unit increments) and never calls xerbla on valid arguments -/
theorem spGemm_spec (trans : Char) (alpha beta : α) (A : NCMat α) (b c : Array α) (ldb ldc : Nat) (ncols m n : Nat)
    (htr : lsame trans 'N' = true ∨ lsame trans 'T' = true ∨ lsame trans 'C' = true)
    (hm : A.nrow = (m : Int)) (hn : A.ncol = (n : Int)) (hm0 : m ≠ 0) (hn0 : n ≠ 0) (hrows : A.rowsOk)
    (hld : gLenY trans m n ≤ ldc) (hc : ldc * (ncols - 1) + gLenY trans m n ≤ c.size) :
    let r := spGemm trans (ncols : Int) alpha A b ldb beta c ldc
    r.aborted = false ∧ r.xerblaCalls = 0 ∧ r.c.size = c.size ∧
    (∀ j < ncols, ∀ i < gLenY trans m n, rd r.c (ldc * j + i)
        = alpha * ∑ k ∈ range (gLenX trans m n), opDense trans A i k * rd b (ldb * j + k) + beta * rd c (ldc * j + i)) ∧
    (∀ q, (∀ j < ncols, ∀ i < gLenY trans m n, q ≠ ldc * j + i) → rd r.c q = rd c q) := by
  have hly : 0 < gLenY trans m n := by unfold gLenY; split_ifs <;> omega
  let P : Nat → GemmRes α → Prop := fun j st =>
    st.aborted = false ∧ st.xerblaCalls = 0 ∧ st.c.size = c.size ∧
    (∀ j' < j, ∀ i < gLenY trans m n, rd st.c (ldc * j' + i)
        = alpha * ∑ k ∈ range (gLenX trans m n), opDense trans A i k * rd b (ldb * j' + k) + beta * rd c (ldc * j' + i)) ∧
    (∀ q, (∀ j' < j, ∀ i < gLenY trans m n, q ≠ ldc * j' + i) → rd st.c q = rd c q)
  show P ncols (spGemm trans (ncols : Int) alpha A b ldb beta c ldc)
  unfold spGemm
  apply foldl_range_inv _ P
  · exact ⟨rfl, rfl, rfl, fun j' hj' => absurd hj' (Nat.not_lt_zero _), fun q _ => rfl⟩
  · intro j st hj ⟨p1, p2, p3, p4, p5⟩
    have hsz : ldc * j + (gLenY trans m n - 1) * (1 : Int).natAbs < st.c.size := by
      have : ldc * j ≤ ldc * (ncols - 1) := Nat.mul_le_mul_left _ (by omega)
      rw [Int.natAbs_one, Nat.mul_one]
      omega
    obtain ⟨y', e1, e2, e3, e4⟩ := spGemv_spec trans alpha beta A b st.c (ldb * j) (ldc * j) 1 1 m n htr hm hn
      hm0 hn0 (by decide) (by decide) (by split_ifs <;> rfl) hrows hsz
    simp only [spos_one] at e3 e4
    simp only [p1, Bool.false_eq_true, if_false, e1]
    refine ⟨rfl, p2, by show y'.size = c.size; rw [e2, p3], ?_, ?_⟩
    · intro j' hj' i hi
      by_cases hjj : j' = j
      · subst hjj
        rw [e3 i hi, p5]
        intro j'' hj'' i'' hi''
        have := col_disj ldc j' j'' i'' hld hi'' hj''
        omega
      · have hlt : j' < j := by omega
        rw [e4, p4 j' hlt i hi]
        have := col_disj ldc j j' i hld hi hlt
        omega
    · intro q hq
      rw [e4 q (fun i hi => hq j (Nat.lt_succ_self j) i hi),
        p5 q (fun j' hj' i hi => hq j' (Nat.lt_succ_of_lt hj') i hi)]

example : (spGemm 'N' 2 (1 : Int) exA #[1, 1, 1, 9, 1, 0, 0, 9] 4 1 #[0, 0, 7, 0, 0, 7] 3).c = #[1, 5, 7, 1, 2, 7] := by decide

end Gemm

section Langs
variable {α β : Type}

/-- max-abs norm: `?langs('M')` is the largest `|a_ij|` of the dense `m × n` matrix -/
theorem langs_max_spec [CommRing α] [LinearOrder β] [AddCommMonoid β] [IsOrderedAddMonoid β]
    (absf : α → β) (habs0 : absf 0 = 0) (hnonneg : ∀ a, 0 ≤ absf a)
    (norm : Char) (A : NCMat α) (m n : Nat) (hm : A.nrow = (m : Int)) (hn : A.ncol = (n : Int))
    (hm0 : 0 < m) (hn0 : 0 < n) (hrows : A.rowsOk) (hnd : A.nodupCols) (hM : lsame norm 'M' = true) :
    ∃ v, langs absf norm A = .val v ∧
      (∀ i < m, ∀ j < n, absf (A.dense i j) ≤ v) ∧ (∃ i < m, ∃ j < n, absf (A.dense i j) = v) := by
  have hmin := min_ne_zero_of_pos hm hn hm0 hn0
  obtain ⟨s1, s2, s3⟩ := foldl_max_nested A.clen (fun j k => absf (A.nz (A.cp j + k))) (0 : β) A.ncol.toNat
    (m := langsMax absf A) rfl
  have hle : ∀ i < m, ∀ j < n, absf (A.dense i j) ≤ langsMax absf A := by
    intro i hi j hj
    rcases A.dense_cases hnd i j (by omega) with ⟨h0, _⟩ | ⟨k, hk, _, hd⟩
    · rw [h0, habs0]; exact s1
    · rw [hd]; exact s2 j (by omega) k hk
  refine ⟨langsMax absf A, ?_, hle, ?_⟩
  · unfold langs
    rw [if_neg hmin, if_pos hM]
  · rcases s3 with e | ⟨j, hj, k, hk, e⟩
    -- the maximum is the start value 0: every |a_ij| lies between 0 and it
    · exact ⟨0, hm0, 0, hn0, le_antisymm (hle 0 hm0 0 hn0) (e.le.trans (hnonneg _))⟩
    · refine ⟨A.ri (A.cp j + k), ?_, j, by omega, ?_⟩
      · have := hrows j hj k hk; omega
      · rw [A.dense_of_ri hnd j hj k hk]; exact e

/-- a letter `lsame` takes for `a` is not taken for a different letter -/
theorem lsame_eq_false {c a b : Char} (ha : lsame c a = true) (hab : upc a ≠ upc b) : lsame c b = false := by
  unfold lsame at ha ⊢
  rw [beq_iff_eq] at ha
  rw [ha]
  exact beq_eq_false_iff_ne.mpr hab

/-- the one norm for the letters that select it: none of them is taken for 'M' -/
theorem langs_one_of_letter [CommRing α] [LinearOrder β] [AddCommMonoid β] [IsOrderedAddMonoid β]
    (absf : α → β) (habs0 : absf 0 = 0) (hnonneg : ∀ a, 0 ≤ absf a)
    (norm : Char) (A : NCMat α) (m n : Nat) (hm : A.nrow = (m : Int)) (hn : A.ncol = (n : Int))
    (hm0 : 0 < m) (hn0 : 0 < n) (hrows : A.rowsOk) (hnd : A.nodupCols)
    (hO : lsame norm 'O' = true ∨ norm = '1') :
    ∃ v, langs absf norm A = .val v ∧
      (∀ j < n, ∑ i ∈ range m, absf (A.dense i j) ≤ v) ∧
      (∃ j < n, ∑ i ∈ range m, absf (A.dense i j) = v) := by
  have hM : lsame norm 'M' = false := by
    rcases hO with h | rfl
    · exact lsame_eq_false h (by decide)
    · decide
  have hmin := min_ne_zero_of_pos hm hn hm0 hn0
  have hN : A.ncol.toNat = n := by rw [hn]; exact Int.toNat_natCast n
  have hcol : ∀ j < n, ∑ i ∈ range m, absf (A.dense i j) = colAbsSum absf A j := by
    intro j hj
    rw [colAbsSum_eq_sum]
    exact sum_absf_dense_col absf habs0 A hnd j (by omega) m
      (fun k hk => by have := hrows j (by omega) k hk; omega)
  have hO' : (lsame norm 'O' || norm == '1') = true := by
    rcases hO with h | h <;> simp [h]
  obtain ⟨s2, s3⟩ := foldl_max_of_nonneg (colAbsSum absf A) (fun j => ∑ i ∈ range m, absf (A.dense i j)) n hn0 hcol
    (fun j _ => sum_nonneg fun i _ => hnonneg _)
  refine ⟨langsOne absf A, ?_, ?_, ?_⟩
  · unfold langs
    rw [if_neg hmin, hM, if_neg (by simp), if_pos hO']
  · unfold langsOne
    rw [hN]
    exact s2
  · unfold langsOne
    rw [hN]
    exact s3

/-- one norm: `?langs('O' | '1')` is the largest column sum of absolute values (`hM` is redundant:
`langs_one_of_letter`) -/
theorem langs_one_spec [CommRing α] [LinearOrder β] [AddCommMonoid β] [IsOrderedAddMonoid β]
    (absf : α → β) (habs0 : absf 0 = 0) (hnonneg : ∀ a, 0 ≤ absf a)
    (norm : Char) (A : NCMat α) (m n : Nat) (hm : A.nrow = (m : Int)) (hn : A.ncol = (n : Int))
    (hm0 : 0 < m) (hn0 : 0 < n) (hrows : A.rowsOk) (hnd : A.nodupCols)
    (hM : lsame norm 'M' = false) (hO : lsame norm 'O' = true ∨ norm = '1') :
    ∃ v, langs absf norm A = .val v ∧
      (∀ j < n, ∑ i ∈ range m, absf (A.dense i j) ≤ v) ∧ (∃ j < n, ∑ i ∈ range m, absf (A.dense i j) = v) :=
  langs_one_of_letter absf habs0 hnonneg norm A m n hm hn hm0 hn0 hrows hnd hO

/-- the infinity norm for the letters that select it: they fail the three earlier tests -/
theorem langs_inf_of_letter [CommRing α] [LinearOrder β] [AddCommMonoid β] [IsOrderedAddMonoid β]
    (absf : α → β) (habs0 : absf 0 = 0) (hnonneg : ∀ a, 0 ≤ absf a)
    (norm : Char) (A : NCMat α) (m n : Nat) (hm : A.nrow = (m : Int)) (hn : A.ncol = (n : Int))
    (hm0 : 0 < m) (hn0 : 0 < n) (hrows : A.rowsOk) (hnd : A.nodupCols) (hI : lsame norm 'I' = true) :
    ∃ v, langs absf norm A = .val v ∧
      (∀ i < m, ∑ j ∈ range n, absf (A.dense i j) ≤ v) ∧
      (∃ i < m, ∑ j ∈ range n, absf (A.dense i j) = v) := by
  have hM : lsame norm 'M' = false := lsame_eq_false hI (by decide)
  have hO : lsame norm 'O' = false := lsame_eq_false hI (by decide)
  have h1 : norm ≠ '1' := fun e => absurd (e ▸ hI) (by decide)
  have hmin := min_ne_zero_of_pos hm hn hm0 hn0
  have hN : A.ncol.toNat = n := by rw [hn]; exact Int.toNat_natCast n
  have hMt : A.nrow.toNat = m := by rw [hm]; exact Int.toNat_natCast m
  have hrow : ∀ i, ∑ j ∈ range n, absf (A.dense i j) = rd (rowAbsSums absf A) i := by
    intro i
    rw [rd_rowAbsSums_dense absf habs0 A hrows hnd i, hN]
  have hO' : ¬ ((lsame norm 'O' || norm == '1') = true) := by
    simp [hO, h1]
  obtain ⟨s2, s3⟩ := foldl_max_of_nonneg (rd (rowAbsSums absf A)) (fun i => ∑ j ∈ range n, absf (A.dense i j)) m
    hm0 (fun i _ => hrow i) (fun i _ => sum_nonneg fun j _ => hnonneg _)
  refine ⟨langsInf absf A, ?_, ?_, ?_⟩
  · unfold langs
    rw [if_neg hmin, hM, if_neg (by simp), if_neg hO', if_pos hI]
  · unfold langsInf
    rw [hMt]
    exact s2
  · unfold langsInf
    rw [hMt]
    exact s3

/-- infinity norm: `?langs('I')` is the largest row sum of absolute values (`hM`, `hO`, `h1` are
redundant: `langs_inf_of_letter`) -/
theorem langs_inf_spec [CommRing α] [LinearOrder β] [AddCommMonoid β] [IsOrderedAddMonoid β]
    (absf : α → β) (habs0 : absf 0 = 0) (hnonneg : ∀ a, 0 ≤ absf a)
    (norm : Char) (A : NCMat α) (m n : Nat) (hm : A.nrow = (m : Int)) (hn : A.ncol = (n : Int))
    (hm0 : 0 < m) (hn0 : 0 < n) (hrows : A.rowsOk) (hnd : A.nodupCols)
    (hM : lsame norm 'M' = false) (hO : lsame norm 'O' = false) (h1 : norm ≠ '1') (hI : lsame norm 'I' = true) :
    ∃ v, langs absf norm A = .val v ∧
      (∀ i < m, ∑ j ∈ range n, absf (A.dense i j) ≤ v) ∧ (∃ i < m, ∑ j ∈ range n, absf (A.dense i j) = v) :=
  langs_inf_of_letter absf habs0 hnonneg norm A m n hm hn hm0 hn0 hrows hnd hI

theorem langs_empty [Zero α] [Zero β] [Add β] [Max β] (absf : α → β) (norm : Char) (A : NCMat α)
    (h : min A.nrow A.ncol = 0) : langs absf norm A = .val 0 := by
  unfold langs
  exact if_pos h

/-- finding `langs-frobenius-abort`: for every non-empty matrix the documented Frobenius norm is
`SUPERLU_ABORT("Not implemented.")` -/
theorem langs_frobenius_notImplemented [Zero α] [Zero β] [Add β] [Max β] (absf : α → β) (norm : Char) (A : NCMat α)
    (h : min A.nrow A.ncol ≠ 0) (hn : norm = 'F' ∨ norm = 'f' ∨ norm = 'E' ∨ norm = 'e') :
    langs absf norm A = .notImplemented := by
  unfold langs
  rw [if_neg h]
  rcases hn with rfl | rfl | rfl | rfl <;>
    rw [if_neg (by decide), if_neg (by decide), if_neg (by decide), if_pos (by decide)]

/- a concrete 2×3 store over `Int`

```
      [ 1  0 -5 ]
  A = [-2  3  4 ]      colptr = 0 2 3 5, rowind = 0 1 | 1 | 0 1, nzval = 1 -2 | 3 | -5 4
```
max-abs = 5, one-norm = 9 (column 2), infinity-norm = 9 (row 1). -/
def exLA : NCMat Int :=
  { nrow := 2, ncol := 3, nnz := 5, colptr := #[0, 2, 3, 5], rowind := #[0, 1, 1, 0, 1],
    nzval := #[1, -2, 3, -5, 4] }

def exAbs : Int → Int := fun a => (a.natAbs : Int)

theorem exLA_rowsOk : exLA.rowsOk := by unfold NCMat.rowsOk; decide
theorem exLA_nodupCols : exLA.nodupCols := by unfold NCMat.nodupCols; decide
theorem exAbs_zero : exAbs 0 = 0 := by decide
theorem exAbs_nonneg : ∀ a, 0 ≤ exAbs a := fun _ => Int.natCast_nonneg _

example : langs exAbs 'M' exLA = .val 5 ∧
    ∃ v, langs exAbs 'm' exLA = .val v ∧ (∀ i < 2, ∀ j < 3, exAbs (exLA.dense i j) ≤ v) ∧
      (∃ i < 2, ∃ j < 3, exAbs (exLA.dense i j) = v) :=
  ⟨by decide, langs_max_spec exAbs exAbs_zero exAbs_nonneg 'm' exLA 2 3 rfl rfl (by decide) (by decide)
    exLA_rowsOk exLA_nodupCols (by decide)⟩

example : langs exAbs 'O' exLA = .val 9 ∧ langs exAbs '1' exLA = .val 9 ∧
    ∃ v, langs exAbs '1' exLA = .val v ∧ (∀ j < 3, ∑ i ∈ range 2, exAbs (exLA.dense i j) ≤ v) ∧
      (∃ j < 3, ∑ i ∈ range 2, exAbs (exLA.dense i j) = v) :=
  ⟨by decide, by decide,
    langs_one_spec exAbs exAbs_zero exAbs_nonneg '1' exLA 2 3 rfl rfl (by decide) (by decide)
      exLA_rowsOk exLA_nodupCols (by decide) (Or.inr rfl)⟩

example : langs exAbs 'I' exLA = .val 9 ∧
    ∃ v, langs exAbs 'i' exLA = .val v ∧ (∀ i < 2, ∑ j ∈ range 3, exAbs (exLA.dense i j) ≤ v) ∧
      (∃ i < 2, ∑ j ∈ range 3, exAbs (exLA.dense i j) = v) :=
  ⟨by decide, langs_inf_spec exAbs exAbs_zero exAbs_nonneg 'i' exLA 2 3 rfl rfl (by decide) (by decide)
    exLA_rowsOk exLA_nodupCols (by decide) (by decide) (by decide) (by decide)⟩

example : langs exAbs 'F' exLA = .notImplemented :=
  langs_frobenius_notImplemented exAbs 'F' exLA (by decide) (Or.inl rfl)

example : langs exAbs 'M' { exLA with ncol := 0 } = .val 0 :=
  langs_empty exAbs 'M' _ (by decide)

example : langs (fun a : Int => (a.natAbs : Int)) 'I' exA = .val 5 := by decide
example : langs (fun a : Int => (a.natAbs : Int)) 'F' exA = .notImplemented :=
  langs_frobenius_notImplemented _ 'F' exA (by decide) (Or.inl rfl)

end Langs

section Utils
variable {α : Type} [CommRing α]

/-- ?CompRow_to_CompCol: for a well-formed row-compressed input the output is a well-formed column-compressed store
(`colptr[0] = 0`, monotone, `colptr[n] = nnz`, row indices `< m`) that denotes the same dense matrix -/
theorem compRowToCompCol_spec (m n nnz : Nat) (a : Array α) (colind rowptr : Array Nat)
    (h : NRwf m n nnz colind rowptr) :
    let r := compRowToCompCol m n nnz a colind rowptr
    let B : NCMat α := { nrow := m, ncol := n, nnz := nnz, colptr := r.colptr, rowind := r.rowind, nzval := r.at_ }
    r.colptr.size = n + 1 ∧ r.rowind.size = nnz ∧ r.at_.size = nnz ∧
    rdN r.colptr 0 = 0 ∧ (∀ j < n, rdN r.colptr j ≤ rdN r.colptr (j + 1)) ∧ rdN r.colptr n = nnz ∧
    (∀ k < nnz, rdN r.rowind k < m) ∧
    (∀ i < m, ∀ j < n, B.dense i j = denseNR a colind rowptr i j) := by
  intro r B
  obtain ⟨c1, c2⟩ := countCols_spec m n nnz colind rowptr h
  obtain ⟨p1, p2, p3, p4⟩ := setupPtrs_spec n (countCols m n colind rowptr)
    (fun c => cnt colind c nnz) c1 c2
  have p3' : ∀ c ≤ n, rdN r.colptr c = cum colind nnz c := p3
  have inv := transfer_spec m n nnz a colind rowptr (setupPtrs n (countCols m n colind rowptr)).2 h p2 p4
  have hr : r.rowind = (transfer m nnz a colind rowptr (setupPtrs n (countCols m n colind rowptr)).2).rowind := rfl
  have ha : r.at_ = (transfer m nnz a colind rowptr (setupPtrs n (countCols m n colind rowptr)).2).at_ := rfl
  refine ⟨p1, ?_, ?_, ?_, ?_, ?_, ?_, ?_⟩
  · rw [hr]; exact inv.szr
  · rw [ha]; exact inv.sza
  · rw [p3' 0 (Nat.zero_le _), cum_zero]
  · intro j hj
    rw [p3' j (by omega), p3' (j + 1) (by omega)]
    exact cum_mono colind nnz (Nat.le_succ j)
  · rw [p3' n (Nat.le_refl _)]; exact cum_total colind n nnz h.cols
  · rw [hr]; exact inv.rows
  · intro i hi j hj
    have hcp : B.cp j = cum colind nnz j := p3' j (by omega)
    have hcl : B.clen j = cnt colind j nnz := by
      show rdN r.colptr (j + 1) - rdN r.colptr j = _
      rw [p3' j (by omega), p3' (j + 1) (by omega), cum_succ]; omega
    unfold NCMat.dense denseNR
    rw [hcl, hcp]
    show (∑ k ∈ range (cnt colind j nnz),
      if rdN r.rowind (cum colind nnz j + k) = i then rd r.at_ (cum colind nnz j + k) else 0) = _
    rw [hr, ha, inv.sums j hj i hi]
    have hhi : rdN rowptr (i + 1) ≤ nnz := by
      have := h.mono_le (i + 1) m (by omega) (Nat.le_refl _); rwa [h.last] at this
    rw [← sum_row_window (fun q => if rdN colind q = j then rd a q else 0) _ _ nnz hhi]
    exact sum_congr rfl fun q _ => (if_congr and_comm rfl rfl).trans (ite_and ..)

example : compRowToCompCol 2 3 3 (#[1, 2, 3] : Array Int) #[0, 2, 1] #[0, 2, 3]
    = { at_ := #[1, 3, 2], rowind := #[0, 1, 0], colptr := #[0, 1, 2, 3] } := by decide
example : NRwf 2 3 3 #[0, 2, 1] #[0, 2, 3] := ⟨by decide, by decide, by decide, by decide⟩

/-- ?Copy_CompCol_Matrix preserves the matrix and leaves B's `nzval`/`rowind` beyond `nnz` alone -/
theorem copy_spec (A B : NCMat α) (n : Nat) (hn : A.ncol = (n : Int))
    (hv : A.nnz ≤ B.nzval.size) (hr : A.nnz ≤ B.rowind.size) (hc : n + 1 ≤ B.colptr.size)
    (hext : ∀ j < n, A.cp (j + 1) ≤ A.nnz) :
    (copyCompCol A B).nrow = A.nrow ∧ (copyCompCol A B).ncol = A.ncol ∧ (copyCompCol A B).nnz = A.nnz ∧
    (∀ j ≤ n, (copyCompCol A B).cp j = A.cp j) ∧
    (∀ k < A.nnz, (copyCompCol A B).nz k = A.nz k ∧ (copyCompCol A B).ri k = A.ri k) ∧
    (∀ k, A.nnz ≤ k → (copyCompCol A B).nz k = B.nz k ∧ (copyCompCol A B).ri k = B.ri k) ∧
    (∀ i, ∀ j < n, (copyCompCol A B).dense i j = A.dense i j) := by
  obtain ⟨a1, a2, a3, -, -, -, a7, a8, a9, -, a11⟩ := copyCompCol_spec A B n hn hv hr hc hext
  exact ⟨a1, a2, a3, a9, a7, a8, a11⟩

example : (copyCompCol exA { nrow := -1, ncol := -1, nnz := 0, colptr := #[9, 9, 9, 9, 9], rowind := #[8, 8, 8, 8], nzval := #[7, 7, 7, 7] }).nzval
    = #[1, 2, 3, 7] := by decide

/-- permuted view (the pointer loop of sp_colorder, stored by `?Create_CompCol_Permuted`): it is `A·Pc` -/
theorem permutedView_spec (A : NCMat α) (permc : Array Nat) (n : Nat) (hn : A.ncol = (n : Int))
    (hlt : ∀ i < n, rdN permc i < n) (hinj : ∀ i < n, ∀ j < n, rdN permc i = rdN permc j → i = j) :
    (permutedView A permc).nrow = A.nrow ∧ (permutedView A permc).ncol = A.ncol ∧
    (permutedView A permc).nnz = A.nnz ∧ (permutedView A permc).nzval = A.nzval ∧
    (permutedView A permc).rowind = A.rowind ∧
    (∀ i, ∀ j < n, (permutedView A permc).dense i (rdN permc j) = A.dense i j) := by
  obtain ⟨a1, a2, a3, a4, a5, -, a7⟩ := permutedView_spec_full A permc n hn hlt hinj
  exact ⟨a1, a2, a3, a4, a5, a7⟩

example : (permutedView exA #[2, 0, 1]).colbeg = #[2, 2, 0] ∧ (permutedView exA #[2, 0, 1]).colend = #[2, 3, 2] := by decide

end Utils

section Trsv

/-- on accepted arguments `spTrsv` is the choice among the four sweeps, or the `n = 0` quick return -/
theorem spTrsv_ok (uplo trans diag : Char) (n : Nat) (one : Int) (L : SCP) (U : NCP) (x : Array Rat)
    (hu : lsame uplo 'L' = true ∨ lsame uplo 'U' = true)
    (ht : lsame trans 'N' = true ∨ lsame trans 'T' = true ∨ lsame trans 'C' = true)
    (hd : lsame diag 'U' = true ∨ lsame diag 'N' = true) :
    spTrsv uplo trans diag n n n n one L U x =
      if lsame trans 'N' then
        (if lsame uplo 'L' then (if (n : Int) = 0 then .ok x else .ok (sweepUp L (stepLN one) x))
         else (if (n : Int) = 0 then .ok x else .ok (sweepDown L (stepUN one U) x)))
      else
        (if lsame uplo 'L' then (if (n : Int) = 0 then .ok x else .ok (sweepDown L (stepLT one) x))
         else (if (n : Int) = 0 then .ok x else .ok (sweepUp L (stepUT one U) x))) := by
  unfold spTrsv
  simp only [not_and_not_eq_true, not_and_not_and_not_eq_true]
  rw [if_neg (not_not_intro hu), if_neg (not_not_intro ht), if_neg (not_not_intro hd), if_neg (by omega),
    if_neg (by omega)]

/-- the `n = 0` quick return claims no more than the sweep delivers (`G`: the sweep's matrix, `F`: the statement's) -/
theorem trsv_quick (n : Nat) (x : Array Rat) {y : Array Rat} {F : Nat → Nat → Rat} (G : Nat → Nat → Rat) (hx : x.size = n)
    (hFG : ∀ i < n, ∀ j < n, G i j = F i j)
    (hy : y.size = n ∧ ∀ i < n, ∑ j ∈ range n, G i j * rd y j = rd x i) :
    ∃ r, (if (n : Int) = 0 then TrsvRes.ok x else .ok y) = .ok r ∧ r.size = n ∧
      ∀ i < n, ∑ j ∈ range n, F i j * rd r j = rd x i := by
  by_cases hn : (n : Int) = 0
  · rw [if_pos hn]; exact ⟨x, rfl, hx, fun i hi => by omega⟩
  · rw [if_neg hn]
    refine ⟨y, rfl, hy.1, fun i hi => ?_⟩
    rw [← hy.2 i hi]
    exact sum_congr rfl fun j hj => by rw [hFG i hi j (mem_range.mp hj)]

/-- x := inv(L)·x.  For a well-formed supernodal `L` (`SCP.wf`, which includes `depOrderOk`) the sweep over supernodes
`0, 1, …` (dense block solve, block gemv, scatter) returns `r` with `L·r = x`, `L` being `entryL / one`. -/
theorem spTrsv_LN_spec (L : SCP) (U : NCP) (one : Int) (hone : one ≠ 0) (hL : L.wf = true) (uplo trans diag : Char)
    (hu : lsame uplo 'L' = true) (ht : lsame trans 'N' = true)
    (hd : lsame diag 'U' = true ∨ lsame diag 'N' = true) (x : Array Rat) (hx : x.size = L.n) :
    ∃ r, spTrsv uplo trans diag L.n L.n L.n L.n one L U x = .ok r ∧ r.size = L.n ∧
      ∀ i < L.n, ∑ j ∈ range L.n, ((L.entryL one i j : Int) : Rat) / (one : Rat) * rd r j = rd x i := by
  rw [spTrsv_ok uplo trans diag L.n one L U x (Or.inl hu) (Or.inl ht) hd]
  simp only [ht, hu, if_true]
  exact trsv_quick L.n x (MLg one L) hx (fun i _ j hj => MLg_eq_entryL L hL one hone i j hj)
    (sweepUp_LN (LOk_of_wf L hL) one x hx)

/-- x := inv(Lᵀ)·x: supernodes `nsuper, …, 0` (dot products with the rows below the block, then the transposed block
solve): `Lᵀ·r = x`. -/
theorem spTrsv_LT_spec (L : SCP) (U : NCP) (one : Int) (hone : one ≠ 0) (hL : L.wf = true) (uplo trans diag : Char)
    (hu : lsame uplo 'L' = true) (hN : lsame trans 'N' = false)
    (ht : lsame trans 'T' = true ∨ lsame trans 'C' = true) (hd : lsame diag 'U' = true ∨ lsame diag 'N' = true)
    (x : Array Rat) (hx : x.size = L.n) :
    ∃ r, spTrsv uplo trans diag L.n L.n L.n L.n one L U x = .ok r ∧ r.size = L.n ∧
      ∀ i < L.n, ∑ j ∈ range L.n, ((L.entryL one j i : Int) : Rat) / (one : Rat) * rd r j = rd x i := by
  rw [spTrsv_ok uplo trans diag L.n one L U x (Or.inl hu) (Or.inr ht) hd]
  simp only [hN, hu, if_true, Bool.false_eq_true, if_false]
  exact trsv_quick L.n x (fun i j => MLg one L j i) hx (fun i hi j _ => MLg_eq_entryL L hL one hone j i hi)
    (sweepDown_LT (LOk_of_wf L hL) one x hx)

/-- x := inv(U)·x: supernodes `nsuper, …, 0` (upper block solve, then the axpy updates with the NCP columns):
`U·r = x` for `entryU / one` with non-zero diagonal. -/
theorem spTrsv_UN_spec (L : SCP) (U : NCP) (one : Int) (hone : one ≠ 0) (hL : L.wf = true)
    (hU : U.wf L = true) (hdiag : ∀ j < L.n, entryU L U j j ≠ 0) (uplo trans diag : Char)
    (hnl : lsame uplo 'L' = false) (hu : lsame uplo 'U' = true)
    (ht : lsame trans 'N' = true) (hd : lsame diag 'U' = true ∨ lsame diag 'N' = true)
    (x : Array Rat) (hx : x.size = L.n) :
    ∃ r, spTrsv uplo trans diag L.n L.n L.n L.n one L U x = .ok r ∧ r.size = L.n ∧
      ∀ i < L.n, ∑ j ∈ range L.n, ((entryU L U i j : Int) : Rat) / (one : Rat) * rd r j = rd x i := by
  rw [spTrsv_ok uplo trans diag L.n one L U x (Or.inr hu) (Or.inl ht) hd]
  simp only [ht, hnl, if_true, Bool.false_eq_true, if_false]
  exact trsv_quick L.n x (MUg one L U) hx (fun i _ j hj => MUg_eq_entryU L U hL hU one i j hj)
    (sweepDown_UN (LOk_of_wf L hL) one U (UOk_of_wf L U one hone hL hU hdiag) x hx)

/-- x := inv(Uᵀ)·x: supernodes `0, 1, …`: `Uᵀ·r = x`. -/
theorem spTrsv_UT_spec (L : SCP) (U : NCP) (one : Int) (hone : one ≠ 0) (hL : L.wf = true)
    (hU : U.wf L = true) (hdiag : ∀ j < L.n, entryU L U j j ≠ 0) (uplo trans diag : Char)
    (hnl : lsame uplo 'L' = false) (hu : lsame uplo 'U' = true)
    (hN : lsame trans 'N' = false) (ht : lsame trans 'T' = true ∨ lsame trans 'C' = true)
    (hd : lsame diag 'U' = true ∨ lsame diag 'N' = true)
    (x : Array Rat) (hx : x.size = L.n) :
    ∃ r, spTrsv uplo trans diag L.n L.n L.n L.n one L U x = .ok r ∧ r.size = L.n ∧
      ∀ i < L.n, ∑ j ∈ range L.n, ((entryU L U j i : Int) : Rat) / (one : Rat) * rd r j = rd x i := by
  rw [spTrsv_ok uplo trans diag L.n one L U x (Or.inr hu) (Or.inr ht) hd]
  simp only [hN, hnl, Bool.false_eq_true, if_false]
  exact trsv_quick L.n x (fun i j => MUg one L U j i) hx (fun i hi j _ => MUg_eq_entryU L U hL hU one j i hi)
    (sweepUp_UT (LOk_of_wf L hL) one U (UOk_of_wf L U one hone hL hU hdiag) x hx)

/-- `trans = 'C'` takes the path of 'T' (real data).  The complex twins accept 'C' too (`zsp_blas2.c:109`) and
conjugate in that branch; they have no model counterpart: the factors of Model/Sparse.lean are real. -/
theorem spTrsv_C_is_T (L : SCP) (U : NCP) (one : Int) (uplo diag : Char) (lnrow lncol unrow uncol : Int) (x : Array Rat) :
    spTrsv uplo 'C' diag lnrow lncol unrow uncol one L U x = spTrsv uplo 'T' diag lnrow lncol unrow uncol one L U x ∧
    spTrsv uplo 'c' diag lnrow lncol unrow uncol one L U x = spTrsv uplo 'T' diag lnrow lncol unrow uncol one L U x := by
  have h : ∀ t t' : Char, lsame t 'N' = lsame t' 'N' →
      (!lsame t 'N' && !lsame t 'T' && !lsame t 'C') = (!lsame t' 'N' && !lsame t' 'T' && !lsame t' 'C') →
      spTrsv uplo t diag lnrow lncol unrow uncol one L U x = spTrsv uplo t' diag lnrow lncol unrow uncol one L U x := by
    intro t t' hN hv
    unfold spTrsv
    rw [hv, hN]
  exact ⟨h 'C' 'T' (by decide) (by decide), h 'c' 'T' (by decide) (by decide)⟩

/-- the info codes of sp_?trsv's argument check, in the order the code tests them -/
theorem spTrsv_argcheck (uplo trans diag : Char) (lnrow lncol unrow uncol : Int) (one : Int) (L : SCP) (U : NCP) (x : Array Rat) :
    (¬ (lsame uplo 'L' = true ∨ lsame uplo 'U' = true) →
      spTrsv uplo trans diag lnrow lncol unrow uncol one L U x = .xerbla 1) ∧
    ((lsame uplo 'L' = true ∨ lsame uplo 'U' = true) →
      ¬ (lsame trans 'N' = true ∨ lsame trans 'T' = true ∨ lsame trans 'C' = true) →
      spTrsv uplo trans diag lnrow lncol unrow uncol one L U x = .xerbla 2) ∧
    ((lsame uplo 'L' = true ∨ lsame uplo 'U' = true) →
      (lsame trans 'N' = true ∨ lsame trans 'T' = true ∨ lsame trans 'C' = true) →
      ¬ (lsame diag 'U' = true ∨ lsame diag 'N' = true) →
      spTrsv uplo trans diag lnrow lncol unrow uncol one L U x = .xerbla 3) ∧
    ((lsame uplo 'L' = true ∨ lsame uplo 'U' = true) →
      (lsame trans 'N' = true ∨ lsame trans 'T' = true ∨ lsame trans 'C' = true) →
      (lsame diag 'U' = true ∨ lsame diag 'N' = true) → (lnrow ≠ lncol ∨ lnrow < 0) →
      spTrsv uplo trans diag lnrow lncol unrow uncol one L U x = .xerbla 4) ∧
    ((lsame uplo 'L' = true ∨ lsame uplo 'U' = true) →
      (lsame trans 'N' = true ∨ lsame trans 'T' = true ∨ lsame trans 'C' = true) →
      (lsame diag 'U' = true ∨ lsame diag 'N' = true) → ¬ (lnrow ≠ lncol ∨ lnrow < 0) → (unrow ≠ uncol ∨ unrow < 0) →
      spTrsv uplo trans diag lnrow lncol unrow uncol one L U x = .xerbla 5) := by
  unfold spTrsv
  simp only [not_and_not_eq_true, not_and_not_and_not_eq_true]
  exact ⟨fun h => if_pos h,
    fun a h => by rw [if_neg (not_not_intro a), if_pos h],
    fun a b h => by rw [if_neg (not_not_intro a), if_neg (not_not_intro b), if_pos h],
    fun a b c h => by rw [if_neg (not_not_intro a), if_neg (not_not_intro b), if_neg (not_not_intro c), if_pos h],
    fun a b c d h => by
      rw [if_neg (not_not_intro a), if_neg (not_not_intro b), if_neg (not_not_intro c), if_neg d, if_pos h]⟩

end Trsv

/-! `L = [[1,0],[3,1]]`, `U = [[2,1],[0,4]]` stored as one two-column supernode -/
def exSn : Snode := { f := 0, e := 2, rowBeg := 0, rows := #[0, 1], nzBeg := #[0, 2], vals := #[#[2, 3], #[1, 4]] }
def exL : SCP :=
  { n := 2, nnz := 3, nsuper := 0, colToSup := #[0, 0], supBeg := #[0], supEnd := #[2]
    rowBegA := #[0, 0], rowEndA := #[2, 2], nzBegA := #[0, 2], nzEndA := #[2, 4], sn := #[exSn] }
def exU : NCP := { n := 2, nnz := 3, cols := #[{ beg := 0, rows := #[], vals := #[] }, { beg := 0, rows := #[], vals := #[] }] }
theorem exL_wf : exL.wf = true := by decide +kernel
theorem exU_wf : exU.wf exL = true := by decide +kernel
theorem exU_diag : ∀ j < exL.n, entryU exL exU j j ≠ 0 := by decide +kernel

example : ∃ r, spTrsv 'L' 'N' 'U' 2 2 2 2 1 exL exU #[2, 10] = .ok r ∧ r.size = 2 ∧
    ∀ i < 2, ∑ j ∈ range 2, ((exL.entryL 1 i j : Int) : Rat) / ((1 : Int) : Rat) * rd r j = rd #[(2 : Rat), 10] i :=
  spTrsv_LN_spec exL exU 1 (by decide) exL_wf 'L' 'N' 'U' (by decide) (by decide) (Or.inl (by decide)) #[2, 10] rfl
example : ∃ r, spTrsv 'U' 't' 'N' 2 2 2 2 1 exL exU #[4, 8] = .ok r ∧ r.size = 2 ∧
    ∀ i < 2, ∑ j ∈ range 2, ((entryU exL exU j i : Int) : Rat) / ((1 : Int) : Rat) * rd r j = rd #[(4 : Rat), 8] i :=
  spTrsv_UT_spec exL exU 1 (by decide) exL_wf exU_wf exU_diag 'U' 't' 'N' (by decide) (by decide) (by decide)
    (Or.inl (by decide)) (Or.inr (by decide)) #[4, 8] rfl
example : spTrsv 'L' 'N' 'U' 2 2 2 2 1 exL exU #[2, 10] = .ok #[2, 4] := by decide +kernel
example : spTrsv 'U' 'N' 'N' 2 2 2 2 1 exL exU #[4, 8] = .ok #[1, 2] := by decide +kernel
example : spTrsv 'L' 'T' 'U' 2 2 2 2 1 exL exU #[5, 1] = .ok #[2, 1] := by decide +kernel
example : spTrsv 'U' 'T' 'N' 2 2 2 2 1 exL exU #[4, 10] = .ok #[2, 2] := by decide +kernel
example : spTrsv 'U' 'C' 'N' 2 2 2 2 1 exL exU #[4, 10] = .ok #[2, 2] := by decide +kernel

section MatrixForm
variable {α : Type} [CommRing α] [DecidableEq α]

def NCMat.toMatrix (A : NCMat α) (m n : Nat) : Matrix (Fin m) (Fin n) α := Matrix.of fun i j => A.dense i j

/-- sp_?gemv in matrix notation (unit increments): `y' = alpha • A *ᵥ x + beta • y` -/
theorem spGemv_spec_matrix_N (trans : Char) (alpha beta : α) (A : NCMat α) (x y : Array α) (m n : Nat)
    (hN : lsame trans 'N' = true) (hm : A.nrow = (m : Int)) (hn : A.ncol = (n : Int))
    (hm0 : m ≠ 0) (hn0 : n ≠ 0) (hrows : A.rowsOk) (hy : m ≤ y.size) :
    ∃ y', spGemv trans alpha A x 1 beta y 1 = .ok y' ∧
      (fun i : Fin m => rd y' i) =
        alpha • (A.toMatrix m n).mulVec (fun j : Fin n => rd x j) + beta • (fun i : Fin m => rd y i) := by
  obtain ⟨y', h1, -, h3, -⟩ := spGemv_spec_N trans alpha beta A x y 0 0 1 m n hN hm hn hm0 hn0 (by decide) hrows
    (by omega)
  refine ⟨y', h1, ?_⟩
  funext i
  have := h3 i i.2
  simp only [Nat.zero_add, spos_one] at this
  simp only [Pi.add_apply, Pi.smul_apply, smul_eq_mul, Matrix.mulVec, dotProduct, NCMat.toMatrix, Matrix.of_apply]
  rw [this, Fin.sum_univ_eq_sum_range (fun j => A.dense i j * rd x j) n]

/-- the same for 'T' / 'C': `y' = alpha • Aᵀ *ᵥ x + beta • y` -/
theorem spGemv_spec_matrix_T (trans : Char) (alpha beta : α) (A : NCMat α) (x y : Array α) (m n : Nat)
    (hN : lsame trans 'N' = false) (hT : lsame trans 'T' = true ∨ lsame trans 'C' = true)
    (hm : A.nrow = (m : Int)) (hn : A.ncol = (n : Int))
    (hm0 : m ≠ 0) (hn0 : n ≠ 0) (hrows : A.rowsOk) (hy : n ≤ y.size) :
    ∃ y', spGemv trans alpha A x 1 beta y 1 = .ok y' ∧
      (fun j : Fin n => rd y' j) =
        alpha • (A.toMatrix m n).transpose.mulVec (fun i : Fin m => rd x i) + beta • (fun j : Fin n => rd y j) := by
  obtain ⟨y', h1, -, h3, -⟩ := spGemv_spec_T trans alpha beta A x y 0 0 1 m n hN hT hm hn hm0 hn0 (by decide) hrows
    (by rw [Int.natAbs_one, Nat.mul_one]; omega)
  refine ⟨y', h1, ?_⟩
  funext j
  have := h3 j j.2
  simp only [Nat.zero_add, spos_one] at this
  simp only [Pi.add_apply, Pi.smul_apply, smul_eq_mul, Matrix.mulVec, dotProduct, NCMat.toMatrix, Matrix.of_apply,
    Matrix.transpose_apply]
  rw [this, Fin.sum_univ_eq_sum_range (fun i => A.dense i j * rd x i) m]

end MatrixForm

/-- dense `L` and `U` of a factorization as Mathlib matrices (values divided by the scale `one`) -/
def Lmat (L : SCP) (one : Int) : Matrix (Fin L.n) (Fin L.n) Rat :=
  Matrix.of fun i j => ((L.entryL one i j : Int) : Rat) / (one : Rat)
def Umat (L : SCP) (U : NCP) (one : Int) : Matrix (Fin L.n) (Fin L.n) Rat :=
  Matrix.of fun i j => ((entryU L U i j : Int) : Rat) / (one : Rat)

/-- the four real cases in one statement, in matrix notation: for well-formed factors (`SCP.wf` incl. `depOrderOk`,
`NCP.wf`, non-zero diagonal of `U`) the result `r` of `sp_?trsv(uplo, trans, …)` satisfies `op(T)·r = x` with `T = L`
or `U` and `op` = identity or transpose ('C' = 'T'). -/
theorem spTrsv_spec (L : SCP) (U : NCP) (one : Int) (hone : one ≠ 0) (hL : L.wf = true) (hU : U.wf L = true)
    (hdiag : ∀ j < L.n, entryU L U j j ≠ 0) (uplo trans diag : Char)
    (hu : lsame uplo 'L' = true ∨ (lsame uplo 'L' = false ∧ lsame uplo 'U' = true))
    (ht : lsame trans 'N' = true ∨ (lsame trans 'N' = false ∧ (lsame trans 'T' = true ∨ lsame trans 'C' = true)))
    (hd : lsame diag 'U' = true ∨ lsame diag 'N' = true) (x : Array Rat) (hx : x.size = L.n) :
    ∃ r, spTrsv uplo trans diag L.n L.n L.n L.n one L U x = .ok r ∧ r.size = L.n ∧
      (let T := if lsame uplo 'L' then Lmat L one else Umat L U one
       let T' := if lsame trans 'N' then T else T.transpose
       T'.mulVec (fun j : Fin L.n => rd r j) = fun i : Fin L.n => rd x i) := by
  have conv : ∀ (F : Nat → Nat → Rat) (r : Array Rat),
      (∀ i < L.n, ∑ j ∈ range L.n, F i j * rd r j = rd x i) →
      (Matrix.of fun (i j : Fin L.n) => F i j).mulVec (fun j : Fin L.n => rd r j) = fun i : Fin L.n => rd x i := by
    intro F r h
    funext i
    simp only [Matrix.mulVec, dotProduct, Matrix.of_apply]
    rw [Fin.sum_univ_eq_sum_range (fun j => F i j * rd r j) L.n]
    exact h i i.2
  rcases hu with hu | ⟨hnl, hu⟩
  · rcases ht with ht | ⟨hN, ht⟩
    · obtain ⟨r, h1, h2, h3⟩ := spTrsv_LN_spec L U one hone hL uplo trans diag hu ht hd x hx
      refine ⟨r, h1, h2, ?_⟩
      simp only [hu, ht, if_true]
      exact conv _ r h3
    · obtain ⟨r, h1, h2, h3⟩ := spTrsv_LT_spec L U one hone hL uplo trans diag hu hN ht hd x hx
      refine ⟨r, h1, h2, ?_⟩
      simp only [hu, hN, if_true, Bool.false_eq_true, if_false]
      exact conv (fun i j => ((L.entryL one j i : Int) : Rat) / (one : Rat)) r h3
  · rcases ht with ht | ⟨hN, ht⟩
    · obtain ⟨r, h1, h2, h3⟩ := spTrsv_UN_spec L U one hone hL hU hdiag uplo trans diag hnl hu ht hd x hx
      refine ⟨r, h1, h2, ?_⟩
      simp only [hnl, ht, if_true, Bool.false_eq_true, if_false]
      exact conv _ r h3
    · obtain ⟨r, h1, h2, h3⟩ := spTrsv_UT_spec L U one hone hL hU hdiag uplo trans diag hnl hu hN ht hd x hx
      refine ⟨r, h1, h2, ?_⟩
      simp only [hnl, hN, Bool.false_eq_true, if_false]
      exact conv (fun i j => ((entryU L U j i : Int) : Rat) / (one : Rat)) r h3

example : ∃ r, spTrsv 'U' 'N' 'N' 2 2 2 2 1 exL exU #[4, 8] = .ok r ∧ r.size = 2 ∧
    (Umat exL exU 1).mulVec (fun j : Fin 2 => rd r j) = fun i : Fin 2 => rd #[(4 : Rat), 8] i := by
  obtain ⟨r, h1, h2, h3⟩ := spTrsv_spec exL exU 1 (by decide) exL_wf exU_wf exU_diag 'U' 'N' 'N'
    (Or.inr ⟨by decide, by decide⟩) (Or.inl (by decide)) (Or.inr (by decide)) #[4, 8] rfl
  exact ⟨r, h1, h2, h3⟩

end Slu.Blas
