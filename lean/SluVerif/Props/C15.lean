/- Property C15 — illegal arguments yield info = −i for the first offender (documented position), and the argument
   check precedes every effect.  Theorems about the generated chains (Gen/ArgCheck.lean, re-derived from /repo/SRC on
   every run) against the hand-transcribed documented tables (Model/ArgDoc.lean), for all argument records (fields are
   unbounded integers).  For every routine R (8 families × 4 precisions): `R_first_offender` (RCheck a = docInfo a)
   where the code does not deviate; else `R_first_offender_partial` under the stated exclusion, `R_code_table` (what
   the code reports for every record) and counter-example lemmas; `R_accepts_valid`; per family `_precedes_effects`
   (the caller-visible stores before the error return, as extracted by the translator) and `_xerbla_names`.
   Each theorem is the family theorem of Proofs/ArgChain.lean carried over along its component of the family's
   `*_chains`. -/
import SluVerif.Proofs.ArgChain
namespace Slu.C15
open Slu.Arg Slu.Gen Slu.Doc Slu.ArgLemmas Slu

/-- a reported `-i` is a violated entry of the table and no entry listed before it is violated -/
theorem table_first_offender (t : List (Nat × Bool)) (i : Nat) (hi : 0 < i) (h : firstOffender t = -(i : Int)) :
    ∃ pre post, t = pre ++ (i, true) :: post ∧ ∀ p ∈ pre, p.2 = false := by
  induction t with
  | nil => exact absurd h (by rw [fo_nil]; omega)
  | cons p t ih =>
    obtain ⟨j, v⟩ := p
    cases v with
    | true =>
      obtain rfl : j = i := by simp only [fo_cons, if_true] at h; omega
      exact ⟨[], t, rfl, fun _ hp => nomatch hp⟩
    | false =>
      obtain ⟨pre, post, rfl, hp⟩ := ih (by simpa only [fo_cons, Bool.false_eq_true, if_false] using h)
      exact ⟨(j, false) :: pre, post, rfl, List.forall_mem_cons.2 ⟨rfl, hp⟩⟩
example : firstOffender [(1, false), (2, true), (3, true)] = -2 := by decide

/-- `0` is reported exactly when no entry is violated (positions are ≥ 1) -/
theorem table_zero_iff (t : List (Nat × Bool)) (hpos : ∀ p ∈ t, 0 < p.1) : firstOffender t = 0 ↔ allValid t = true :=
  ⟨allValid_of_firstOffender t hpos, firstOffender_of_allValid (t := t)⟩
example : firstOffender [(1, false), (7, false)] = 0 := by decide

/-- the documented tables list their positions in increasing order, so "first in the table" = "least position" -/
theorem tables_sorted (dt : Int) :
    (∀ a, (gssv.table dt a).map (·.1) = [1, 2, 3, 4, 5, 6, 7]) ∧
    (∀ a, (gssvx.table dt a).map (·.1) = [1, 2, 3, 4, 5, 6, 7, 8, 9, 10, 11, 12, 13, 14, 15, 16, 17]) ∧
    (∀ dc a, (gstrs.table dc dt a).map (·.1) = [1, 2, 3, 4, 5, 6, 7]) ∧
    (∀ a, (gsrfs.table dt a).map (·.1) = [1, 2, 3, 4, 5, 6, 7, 8, 9, 10, 11, 12, 13, 14]) ∧
    (∀ a, (gscon.table dt a).map (·.1) = [1, 2, 3, 4, 5]) ∧
    (∀ a, (gsequ.table dt a).map (·.1) = [1, 2, 3, 4, 5, 6]) ∧
    (∀ a, (trsv.table dt a).map (·.1) = [1, 2, 3, 4, 5, 6]) ∧
    (∀ a, (gemv.table dt a).map (·.1) = [1, 2, 3, 4, 5, 6, 7, 8]) :=
  ⟨fun _ => rfl, fun _ => rfl, fun _ _ => rfl, fun _ => rfl, fun _ => rfl, fun _ => rfl, fun _ => rfl, fun _ => rfl⟩

/-- The tie to the generated text: each generated `…Check` is, by `rfl`, its family's chain at the routine's tag.  A test
    changed, reordered or dropped in one routine's source breaks exactly that routine's component (here and in the seven
    `*_chains` below). -/
theorem gssv_chains : pdgssvCheck = Chain.gssv SLU_D ∧ psgssvCheck = Chain.gssv SLU_S ∧
    pcgssvCheck = Chain.gssv SLU_C ∧ pzgssvCheck = Chain.gssv SLU_Z :=
  ⟨rfl, rfl, rfl, rfl⟩

theorem pdgssv_code_table (a : GssvArgs) : pdgssvCheck a = firstOffender (Coded.gssv SLU_D a) :=
  gssv_chains.1 ▸ Chain.gssv_code_table SLU_D a
theorem pdgssv_first_offender_partial (a : GssvArgs) (hB : a.B_Stype = SLU_DN ∧ a.B_Dtype = SLU_D ∧ a.B_Mtype = SLU_GE) :
    pdgssvCheck a = gssv.docInfo SLU_D a :=
  gssv_chains.1 ▸ Chain.gssv_first_offender_partial SLU_D a hB
example : pdgssvCheck Witness.gssvBadA = gssv.docInfo SLU_D Witness.gssvBadA ∧ pdgssvCheck Witness.gssvBadA = -2 := by decide
theorem pdgssv_B_type_unchecked : gssv.docInfo SLU_D (Witness.gssvBadBtype SLU_D) = -7 ∧ pdgssvCheck (Witness.gssvBadBtype SLU_D) = 0 := by
  decide
theorem pdgssv_accepts_valid (a : GssvArgs) (h : gssv.valid SLU_D a = true) : pdgssvCheck a = 0 :=
  gssv_chains.1 ▸ Chain.gssv_accepts_valid SLU_D a h
example : gssv.valid SLU_D (Witness.gssvOk SLU_D) = true ∧ pdgssvCheck (Witness.gssvOk SLU_D) = 0 := by decide

theorem psgssv_code_table (a : GssvArgs) : psgssvCheck a = firstOffender (Coded.gssv SLU_S a) :=
  gssv_chains.2.1 ▸ Chain.gssv_code_table SLU_S a
theorem psgssv_first_offender_partial (a : GssvArgs) (hB : a.B_Stype = SLU_DN ∧ a.B_Dtype = SLU_S ∧ a.B_Mtype = SLU_GE) :
    psgssvCheck a = gssv.docInfo SLU_S a :=
  gssv_chains.2.1 ▸ Chain.gssv_first_offender_partial SLU_S a hB
example : psgssvCheck Witness.gssvBadA = gssv.docInfo SLU_S Witness.gssvBadA ∧ psgssvCheck Witness.gssvBadA = -2 := by decide
theorem psgssv_B_type_unchecked : gssv.docInfo SLU_S (Witness.gssvBadBtype SLU_S) = -7 ∧ psgssvCheck (Witness.gssvBadBtype SLU_S) = 0 := by
  decide
theorem psgssv_accepts_valid (a : GssvArgs) (h : gssv.valid SLU_S a = true) : psgssvCheck a = 0 :=
  gssv_chains.2.1 ▸ Chain.gssv_accepts_valid SLU_S a h
example : gssv.valid SLU_S (Witness.gssvOk SLU_S) = true ∧ psgssvCheck (Witness.gssvOk SLU_S) = 0 := by decide

theorem pcgssv_code_table (a : GssvArgs) : pcgssvCheck a = firstOffender (Coded.gssv SLU_C a) :=
  gssv_chains.2.2.1 ▸ Chain.gssv_code_table SLU_C a
theorem pcgssv_first_offender_partial (a : GssvArgs) (hB : a.B_Stype = SLU_DN ∧ a.B_Dtype = SLU_C ∧ a.B_Mtype = SLU_GE) :
    pcgssvCheck a = gssv.docInfo SLU_C a :=
  gssv_chains.2.2.1 ▸ Chain.gssv_first_offender_partial SLU_C a hB
example : pcgssvCheck Witness.gssvBadA = gssv.docInfo SLU_C Witness.gssvBadA ∧ pcgssvCheck Witness.gssvBadA = -2 := by decide
theorem pcgssv_B_type_unchecked : gssv.docInfo SLU_C (Witness.gssvBadBtype SLU_C) = -7 ∧ pcgssvCheck (Witness.gssvBadBtype SLU_C) = 0 := by
  decide
theorem pcgssv_accepts_valid (a : GssvArgs) (h : gssv.valid SLU_C a = true) : pcgssvCheck a = 0 :=
  gssv_chains.2.2.1 ▸ Chain.gssv_accepts_valid SLU_C a h
example : gssv.valid SLU_C (Witness.gssvOk SLU_C) = true ∧ pcgssvCheck (Witness.gssvOk SLU_C) = 0 := by decide

theorem pzgssv_code_table (a : GssvArgs) : pzgssvCheck a = firstOffender (Coded.gssv SLU_Z a) :=
  gssv_chains.2.2.2 ▸ Chain.gssv_code_table SLU_Z a
theorem pzgssv_first_offender_partial (a : GssvArgs) (hB : a.B_Stype = SLU_DN ∧ a.B_Dtype = SLU_Z ∧ a.B_Mtype = SLU_GE) :
    pzgssvCheck a = gssv.docInfo SLU_Z a :=
  gssv_chains.2.2.2 ▸ Chain.gssv_first_offender_partial SLU_Z a hB
example : pzgssvCheck Witness.gssvBadA = gssv.docInfo SLU_Z Witness.gssvBadA ∧ pzgssvCheck Witness.gssvBadA = -2 := by decide
theorem pzgssv_B_type_unchecked : gssv.docInfo SLU_Z (Witness.gssvBadBtype SLU_Z) = -7 ∧ pzgssvCheck (Witness.gssvBadBtype SLU_Z) = 0 := by
  decide
theorem pzgssv_accepts_valid (a : GssvArgs) (h : gssv.valid SLU_Z a = true) : pzgssvCheck a = 0 :=
  gssv_chains.2.2.2 ▸ Chain.gssv_accepts_valid SLU_Z a h
example : gssv.valid SLU_Z (Witness.gssvOk SLU_Z) = true ∧ pzgssvCheck (Witness.gssvOk SLU_Z) = 0 := by decide

theorem gssvx_chains : pdgssvxCheck = Chain.gssvx SLU_D ∧ psgssvxCheck = Chain.gssvx SLU_S ∧
    pcgssvxCheck = Chain.gssvx SLU_C ∧ pzgssvxCheck = Chain.gssvx SLU_Z :=
  ⟨rfl, rfl, rfl, rfl⟩

theorem pdgssvx_first_offender (a : GssvxArgs) (hb : 0 < a.bignum) : pdgssvxCheck a = gssvx.docInfo SLU_D a :=
  gssvx_chains.1 ▸ Chain.gssvx_first_offender SLU_D a hb
example : pdgssvxCheck (Witness.gssvxBadR SLU_D) = -7 ∧ gssvx.docInfo SLU_D (Witness.gssvxBadR SLU_D) = -7 := by decide
theorem pdgssvx_accepts_valid (a : GssvxArgs) (hb : 0 < a.bignum) (h : gssvx.valid SLU_D a = true) : pdgssvxCheck a = 0 :=
  gssvx_chains.1 ▸ Chain.gssvx_accepts_valid SLU_D a hb h
example : gssvx.valid SLU_D (Witness.gssvxOk SLU_D) = true ∧ pdgssvxCheck (Witness.gssvxOk SLU_D) = 0 := by decide

theorem psgssvx_first_offender (a : GssvxArgs) (hb : 0 < a.bignum) : psgssvxCheck a = gssvx.docInfo SLU_S a :=
  gssvx_chains.2.1 ▸ Chain.gssvx_first_offender SLU_S a hb
example : psgssvxCheck (Witness.gssvxBadR SLU_S) = -7 ∧ gssvx.docInfo SLU_S (Witness.gssvxBadR SLU_S) = -7 := by decide
theorem psgssvx_accepts_valid (a : GssvxArgs) (hb : 0 < a.bignum) (h : gssvx.valid SLU_S a = true) : psgssvxCheck a = 0 :=
  gssvx_chains.2.1 ▸ Chain.gssvx_accepts_valid SLU_S a hb h
example : gssvx.valid SLU_S (Witness.gssvxOk SLU_S) = true ∧ psgssvxCheck (Witness.gssvxOk SLU_S) = 0 := by decide

theorem pcgssvx_first_offender (a : GssvxArgs) (hb : 0 < a.bignum) : pcgssvxCheck a = gssvx.docInfo SLU_C a :=
  gssvx_chains.2.2.1 ▸ Chain.gssvx_first_offender SLU_C a hb
example : pcgssvxCheck (Witness.gssvxBadR SLU_C) = -7 ∧ gssvx.docInfo SLU_C (Witness.gssvxBadR SLU_C) = -7 := by decide
theorem pcgssvx_accepts_valid (a : GssvxArgs) (hb : 0 < a.bignum) (h : gssvx.valid SLU_C a = true) : pcgssvxCheck a = 0 :=
  gssvx_chains.2.2.1 ▸ Chain.gssvx_accepts_valid SLU_C a hb h
example : gssvx.valid SLU_C (Witness.gssvxOk SLU_C) = true ∧ pcgssvxCheck (Witness.gssvxOk SLU_C) = 0 := by decide

theorem pzgssvx_first_offender (a : GssvxArgs) (hb : 0 < a.bignum) : pzgssvxCheck a = gssvx.docInfo SLU_Z a :=
  gssvx_chains.2.2.2 ▸ Chain.gssvx_first_offender SLU_Z a hb
example : pzgssvxCheck (Witness.gssvxBadR SLU_Z) = -7 ∧ gssvx.docInfo SLU_Z (Witness.gssvxBadR SLU_Z) = -7 := by decide
theorem pzgssvx_accepts_valid (a : GssvxArgs) (hb : 0 < a.bignum) (h : gssvx.valid SLU_Z a = true) : pzgssvxCheck a = 0 :=
  gssvx_chains.2.2.2 ▸ Chain.gssvx_accepts_valid SLU_Z a hb h
example : gssvx.valid SLU_Z (Witness.gssvxOk SLU_Z) = true ∧ pzgssvxCheck (Witness.gssvxOk SLU_Z) = 0 := by decide

theorem gstrs_chains : dgstrsCheck = Chain.gstrs ∧ sgstrsCheck = Chain.gstrs ∧
    cgstrsCheck = Chain.gstrs ∧ zgstrsCheck = Chain.gstrs :=
  ⟨rfl, rfl, rfl, rfl⟩

theorem dgstrs_code_table (a : GstrsArgs) : dgstrsCheck a = firstOffender (Coded.gstrs a) :=
  gstrs_chains.1 ▸ Chain.gstrs_code_table a
theorem dgstrs_first_offender_partial (a : GstrsArgs) (hx : Coded.gstrsExcl true SLU_D a) :
    dgstrsCheck a = gstrs.docInfo true SLU_D a :=
  gstrs_chains.1 ▸ Chain.gstrs_first_offender_partial true SLU_D a hx
example : Coded.gstrsExcl true SLU_D (Witness.gstrsBadLda SLU_D) ∧ dgstrsCheck (Witness.gstrsBadLda SLU_D) = -6 := by decide
theorem dgstrs_L_reported_as_3 : gstrs.docInfo true SLU_D (Witness.gstrsBadL SLU_D) = -2 ∧ dgstrsCheck (Witness.gstrsBadL SLU_D) = -3 := by decide
theorem dgstrs_U_reported_as_4 : gstrs.docInfo true SLU_D (Witness.gstrsBadU SLU_D) = -3 ∧ dgstrsCheck (Witness.gstrsBadU SLU_D) = -4 := by decide
theorem dgstrs_types_unchecked : gstrs.docInfo true SLU_D (Witness.gstrsBadLtype SLU_D) = -2 ∧ dgstrsCheck (Witness.gstrsBadLtype SLU_D) = 0 := by decide
theorem dgstrs_accepts_valid (a : GstrsArgs) (h : gstrs.valid true SLU_D a = true) : dgstrsCheck a = 0 :=
  gstrs_chains.1 ▸ Chain.gstrs_accepts_valid true SLU_D a h
example : gstrs.valid true SLU_D (Witness.gstrsOk SLU_D) = true ∧ dgstrsCheck (Witness.gstrsOk SLU_D) = 0 := by decide

theorem dgstrs_conj_documented_and_accepted :
    gstrs.valid true SLU_D (Witness.gstrsConj SLU_D) = true ∧ dgstrsCheck (Witness.gstrsConj SLU_D) = 0 := by decide

theorem sgstrs_code_table (a : GstrsArgs) : sgstrsCheck a = firstOffender (Coded.gstrs a) :=
  gstrs_chains.2.1 ▸ Chain.gstrs_code_table a
theorem sgstrs_first_offender_partial (a : GstrsArgs) (hx : Coded.gstrsExcl true SLU_S a) :
    sgstrsCheck a = gstrs.docInfo true SLU_S a :=
  gstrs_chains.2.1 ▸ Chain.gstrs_first_offender_partial true SLU_S a hx
example : Coded.gstrsExcl true SLU_S (Witness.gstrsBadLda SLU_S) ∧ sgstrsCheck (Witness.gstrsBadLda SLU_S) = -6 := by decide
theorem sgstrs_L_reported_as_3 : gstrs.docInfo true SLU_S (Witness.gstrsBadL SLU_S) = -2 ∧ sgstrsCheck (Witness.gstrsBadL SLU_S) = -3 := by decide
theorem sgstrs_U_reported_as_4 : gstrs.docInfo true SLU_S (Witness.gstrsBadU SLU_S) = -3 ∧ sgstrsCheck (Witness.gstrsBadU SLU_S) = -4 := by decide
theorem sgstrs_types_unchecked : gstrs.docInfo true SLU_S (Witness.gstrsBadLtype SLU_S) = -2 ∧ sgstrsCheck (Witness.gstrsBadLtype SLU_S) = 0 := by decide
theorem sgstrs_accepts_valid (a : GstrsArgs) (h : gstrs.valid true SLU_S a = true) : sgstrsCheck a = 0 :=
  gstrs_chains.2.1 ▸ Chain.gstrs_accepts_valid true SLU_S a h
example : gstrs.valid true SLU_S (Witness.gstrsOk SLU_S) = true ∧ sgstrsCheck (Witness.gstrsOk SLU_S) = 0 := by decide

theorem sgstrs_conj_documented_and_accepted :
    gstrs.valid true SLU_S (Witness.gstrsConj SLU_S) = true ∧ sgstrsCheck (Witness.gstrsConj SLU_S) = 0 := by decide

theorem cgstrs_code_table (a : GstrsArgs) : cgstrsCheck a = firstOffender (Coded.gstrs a) :=
  gstrs_chains.2.2.1 ▸ Chain.gstrs_code_table a
theorem cgstrs_first_offender_partial (a : GstrsArgs) (hx : Coded.gstrsExcl false SLU_C a) :
    cgstrsCheck a = gstrs.docInfo false SLU_C a :=
  gstrs_chains.2.2.1 ▸ Chain.gstrs_first_offender_partial false SLU_C a hx
example : Coded.gstrsExcl false SLU_C (Witness.gstrsBadLda SLU_C) ∧ cgstrsCheck (Witness.gstrsBadLda SLU_C) = -6 := by decide
theorem cgstrs_L_reported_as_3 : gstrs.docInfo false SLU_C (Witness.gstrsBadL SLU_C) = -2 ∧ cgstrsCheck (Witness.gstrsBadL SLU_C) = -3 := by decide
theorem cgstrs_U_reported_as_4 : gstrs.docInfo false SLU_C (Witness.gstrsBadU SLU_C) = -3 ∧ cgstrsCheck (Witness.gstrsBadU SLU_C) = -4 := by decide
theorem cgstrs_types_unchecked : gstrs.docInfo false SLU_C (Witness.gstrsBadLtype SLU_C) = -2 ∧ cgstrsCheck (Witness.gstrsBadLtype SLU_C) = 0 := by decide
theorem cgstrs_accepts_valid (a : GstrsArgs) (h : gstrs.valid false SLU_C a = true) : cgstrsCheck a = 0 :=
  gstrs_chains.2.2.1 ▸ Chain.gstrs_accepts_valid false SLU_C a h
example : gstrs.valid false SLU_C (Witness.gstrsOk SLU_C) = true ∧ cgstrsCheck (Witness.gstrsOk SLU_C) = 0 := by decide

theorem cgstrs_conj_accepted : gstrs.docInfo false SLU_C (Witness.gstrsConj SLU_C) = -1 ∧ cgstrsCheck (Witness.gstrsConj SLU_C) = 0 := by decide

theorem zgstrs_code_table (a : GstrsArgs) : zgstrsCheck a = firstOffender (Coded.gstrs a) :=
  gstrs_chains.2.2.2 ▸ Chain.gstrs_code_table a
theorem zgstrs_first_offender_partial (a : GstrsArgs) (hx : Coded.gstrsExcl false SLU_Z a) :
    zgstrsCheck a = gstrs.docInfo false SLU_Z a :=
  gstrs_chains.2.2.2 ▸ Chain.gstrs_first_offender_partial false SLU_Z a hx
example : Coded.gstrsExcl false SLU_Z (Witness.gstrsBadLda SLU_Z) ∧ zgstrsCheck (Witness.gstrsBadLda SLU_Z) = -6 := by decide
theorem zgstrs_L_reported_as_3 : gstrs.docInfo false SLU_Z (Witness.gstrsBadL SLU_Z) = -2 ∧ zgstrsCheck (Witness.gstrsBadL SLU_Z) = -3 := by decide
theorem zgstrs_U_reported_as_4 : gstrs.docInfo false SLU_Z (Witness.gstrsBadU SLU_Z) = -3 ∧ zgstrsCheck (Witness.gstrsBadU SLU_Z) = -4 := by decide
theorem zgstrs_types_unchecked : gstrs.docInfo false SLU_Z (Witness.gstrsBadLtype SLU_Z) = -2 ∧ zgstrsCheck (Witness.gstrsBadLtype SLU_Z) = 0 := by decide
theorem zgstrs_accepts_valid (a : GstrsArgs) (h : gstrs.valid false SLU_Z a = true) : zgstrsCheck a = 0 :=
  gstrs_chains.2.2.2 ▸ Chain.gstrs_accepts_valid false SLU_Z a h
example : gstrs.valid false SLU_Z (Witness.gstrsOk SLU_Z) = true ∧ zgstrsCheck (Witness.gstrsOk SLU_Z) = 0 := by decide

theorem zgstrs_conj_accepted : gstrs.docInfo false SLU_Z (Witness.gstrsConj SLU_Z) = -1 ∧ zgstrsCheck (Witness.gstrsConj SLU_Z) = 0 := by decide

theorem gsrfs_chains : dgsrfsCheck = Chain.gsrfs SLU_D ∧ sgsrfsCheck = Chain.gsrfs SLU_S ∧
    cgsrfsCheck = Chain.gsrfs SLU_C ∧ zgsrfsCheck = Chain.gsrfs SLU_Z :=
  ⟨rfl, rfl, rfl, rfl⟩

theorem dgsrfs_first_offender_partial (a : GsrfsArgs) (h7 : gsrfs.violates_7 a = false) :
    dgsrfsCheck a = gsrfs.docInfo SLU_D a :=
  gsrfs_chains.1 ▸ Chain.gsrfs_first_offender_partial SLU_D a h7
theorem dgsrfs_code_table (a : GsrfsArgs) : dgsrfsCheck a = firstOffender (Coded.gsrfs SLU_D a) :=
  gsrfs_chains.1 ▸ Chain.gsrfs_code_table SLU_D a
example : gsrfs.violates_7 (Witness.gsrfsBadX SLU_D) = false ∧ dgsrfsCheck (Witness.gsrfsBadX SLU_D) = -11 := by decide
theorem dgsrfs_equed_unchecked : gsrfs.docInfo SLU_D (Witness.gsrfsBadEqued SLU_D) = -7 ∧ dgsrfsCheck (Witness.gsrfsBadEqued SLU_D) = 0 := by decide
theorem dgsrfs_accepts_valid (a : GsrfsArgs) (h : gsrfs.valid SLU_D a = true) : dgsrfsCheck a = 0 :=
  gsrfs_chains.1 ▸ Chain.gsrfs_accepts_valid SLU_D a h
example : gsrfs.valid SLU_D (Witness.gsrfsOk SLU_D) = true ∧ dgsrfsCheck (Witness.gsrfsOk SLU_D) = 0 := by decide

theorem sgsrfs_first_offender_partial (a : GsrfsArgs) (h7 : gsrfs.violates_7 a = false) :
    sgsrfsCheck a = gsrfs.docInfo SLU_S a :=
  gsrfs_chains.2.1 ▸ Chain.gsrfs_first_offender_partial SLU_S a h7
theorem sgsrfs_code_table (a : GsrfsArgs) : sgsrfsCheck a = firstOffender (Coded.gsrfs SLU_S a) :=
  gsrfs_chains.2.1 ▸ Chain.gsrfs_code_table SLU_S a
example : gsrfs.violates_7 (Witness.gsrfsBadX SLU_S) = false ∧ sgsrfsCheck (Witness.gsrfsBadX SLU_S) = -11 := by decide
theorem sgsrfs_equed_unchecked : gsrfs.docInfo SLU_S (Witness.gsrfsBadEqued SLU_S) = -7 ∧ sgsrfsCheck (Witness.gsrfsBadEqued SLU_S) = 0 := by decide
theorem sgsrfs_accepts_valid (a : GsrfsArgs) (h : gsrfs.valid SLU_S a = true) : sgsrfsCheck a = 0 :=
  gsrfs_chains.2.1 ▸ Chain.gsrfs_accepts_valid SLU_S a h
example : gsrfs.valid SLU_S (Witness.gsrfsOk SLU_S) = true ∧ sgsrfsCheck (Witness.gsrfsOk SLU_S) = 0 := by decide

theorem cgsrfs_first_offender_partial (a : GsrfsArgs) (h7 : gsrfs.violates_7 a = false) :
    cgsrfsCheck a = gsrfs.docInfo SLU_C a :=
  gsrfs_chains.2.2.1 ▸ Chain.gsrfs_first_offender_partial SLU_C a h7
theorem cgsrfs_code_table (a : GsrfsArgs) : cgsrfsCheck a = firstOffender (Coded.gsrfs SLU_C a) :=
  gsrfs_chains.2.2.1 ▸ Chain.gsrfs_code_table SLU_C a
example : gsrfs.violates_7 (Witness.gsrfsBadX SLU_C) = false ∧ cgsrfsCheck (Witness.gsrfsBadX SLU_C) = -11 := by decide
theorem cgsrfs_equed_unchecked : gsrfs.docInfo SLU_C (Witness.gsrfsBadEqued SLU_C) = -7 ∧ cgsrfsCheck (Witness.gsrfsBadEqued SLU_C) = 0 := by decide
theorem cgsrfs_accepts_valid (a : GsrfsArgs) (h : gsrfs.valid SLU_C a = true) : cgsrfsCheck a = 0 :=
  gsrfs_chains.2.2.1 ▸ Chain.gsrfs_accepts_valid SLU_C a h
example : gsrfs.valid SLU_C (Witness.gsrfsOk SLU_C) = true ∧ cgsrfsCheck (Witness.gsrfsOk SLU_C) = 0 := by decide

theorem zgsrfs_first_offender_partial (a : GsrfsArgs) (h7 : gsrfs.violates_7 a = false) :
    zgsrfsCheck a = gsrfs.docInfo SLU_Z a :=
  gsrfs_chains.2.2.2 ▸ Chain.gsrfs_first_offender_partial SLU_Z a h7
theorem zgsrfs_code_table (a : GsrfsArgs) : zgsrfsCheck a = firstOffender (Coded.gsrfs SLU_Z a) :=
  gsrfs_chains.2.2.2 ▸ Chain.gsrfs_code_table SLU_Z a
example : gsrfs.violates_7 (Witness.gsrfsBadX SLU_Z) = false ∧ zgsrfsCheck (Witness.gsrfsBadX SLU_Z) = -11 := by decide
theorem zgsrfs_equed_unchecked : gsrfs.docInfo SLU_Z (Witness.gsrfsBadEqued SLU_Z) = -7 ∧ zgsrfsCheck (Witness.gsrfsBadEqued SLU_Z) = 0 := by decide
theorem zgsrfs_accepts_valid (a : GsrfsArgs) (h : gsrfs.valid SLU_Z a = true) : zgsrfsCheck a = 0 :=
  gsrfs_chains.2.2.2 ▸ Chain.gsrfs_accepts_valid SLU_Z a h
example : gsrfs.valid SLU_Z (Witness.gsrfsOk SLU_Z) = true ∧ zgsrfsCheck (Witness.gsrfsOk SLU_Z) = 0 := by decide

theorem gscon_chains : dgsconCheck = Chain.gscon SLU_D ∧ sgsconCheck = Chain.gscon SLU_S ∧
    cgsconCheck = Chain.gscon SLU_C ∧ zgsconCheck = Chain.gscon SLU_Z :=
  ⟨rfl, rfl, rfl, rfl⟩

theorem dgscon_first_offender (a : GsconArgs) : dgsconCheck a = gscon.docInfo SLU_D a :=
  gscon_chains.1 ▸ Chain.gscon_first_offender SLU_D a
example : dgsconCheck (Witness.gsconBadU SLU_D) = -3 := by decide
theorem dgscon_accepts_valid (a : GsconArgs) (h : gscon.valid SLU_D a = true) : dgsconCheck a = 0 :=
  gscon_chains.1 ▸ Chain.gscon_accepts_valid SLU_D a h
example : gscon.valid SLU_D (Witness.gsconOk SLU_D) = true ∧ dgsconCheck (Witness.gsconOk SLU_D) = 0 := by decide

theorem sgscon_first_offender (a : GsconArgs) : sgsconCheck a = gscon.docInfo SLU_S a :=
  gscon_chains.2.1 ▸ Chain.gscon_first_offender SLU_S a
example : sgsconCheck (Witness.gsconBadU SLU_S) = -3 := by decide
theorem sgscon_accepts_valid (a : GsconArgs) (h : gscon.valid SLU_S a = true) : sgsconCheck a = 0 :=
  gscon_chains.2.1 ▸ Chain.gscon_accepts_valid SLU_S a h
example : gscon.valid SLU_S (Witness.gsconOk SLU_S) = true ∧ sgsconCheck (Witness.gsconOk SLU_S) = 0 := by decide

theorem cgscon_first_offender (a : GsconArgs) : cgsconCheck a = gscon.docInfo SLU_C a :=
  gscon_chains.2.2.1 ▸ Chain.gscon_first_offender SLU_C a
example : cgsconCheck (Witness.gsconBadU SLU_C) = -3 := by decide
theorem cgscon_accepts_valid (a : GsconArgs) (h : gscon.valid SLU_C a = true) : cgsconCheck a = 0 :=
  gscon_chains.2.2.1 ▸ Chain.gscon_accepts_valid SLU_C a h
example : gscon.valid SLU_C (Witness.gsconOk SLU_C) = true ∧ cgsconCheck (Witness.gsconOk SLU_C) = 0 := by decide

theorem zgscon_first_offender (a : GsconArgs) : zgsconCheck a = gscon.docInfo SLU_Z a :=
  gscon_chains.2.2.2 ▸ Chain.gscon_first_offender SLU_Z a
example : zgsconCheck (Witness.gsconBadU SLU_Z) = -3 := by decide
theorem zgscon_accepts_valid (a : GsconArgs) (h : gscon.valid SLU_Z a = true) : zgsconCheck a = 0 :=
  gscon_chains.2.2.2 ▸ Chain.gscon_accepts_valid SLU_Z a h
example : gscon.valid SLU_Z (Witness.gsconOk SLU_Z) = true ∧ zgsconCheck (Witness.gsconOk SLU_Z) = 0 := by decide

theorem gsequ_chains : dgsequCheck = Chain.gsequ SLU_D ∧ sgsequCheck = Chain.gsequ SLU_S ∧
    cgsequCheck = Chain.gsequ SLU_C ∧ zgsequCheck = Chain.gsequ SLU_Z :=
  ⟨rfl, rfl, rfl, rfl⟩

theorem dgsequ_first_offender (a : GsequArgs) : dgsequCheck a = gsequ.docInfo SLU_D a :=
  gsequ_chains.1 ▸ Chain.gsequ_first_offender SLU_D a
example : dgsequCheck (Witness.gsequBad SLU_D) = -1 := by decide
theorem dgsequ_accepts_valid (a : GsequArgs) (h : gsequ.valid SLU_D a = true) : dgsequCheck a = 0 :=
  gsequ_chains.1 ▸ Chain.gsequ_accepts_valid SLU_D a h
example : gsequ.valid SLU_D (Witness.gsequOk SLU_D) = true ∧ dgsequCheck (Witness.gsequOk SLU_D) = 0 := by decide

theorem sgsequ_first_offender (a : GsequArgs) : sgsequCheck a = gsequ.docInfo SLU_S a :=
  gsequ_chains.2.1 ▸ Chain.gsequ_first_offender SLU_S a
example : sgsequCheck (Witness.gsequBad SLU_S) = -1 := by decide
theorem sgsequ_accepts_valid (a : GsequArgs) (h : gsequ.valid SLU_S a = true) : sgsequCheck a = 0 :=
  gsequ_chains.2.1 ▸ Chain.gsequ_accepts_valid SLU_S a h
example : gsequ.valid SLU_S (Witness.gsequOk SLU_S) = true ∧ sgsequCheck (Witness.gsequOk SLU_S) = 0 := by decide

theorem cgsequ_first_offender (a : GsequArgs) : cgsequCheck a = gsequ.docInfo SLU_C a :=
  gsequ_chains.2.2.1 ▸ Chain.gsequ_first_offender SLU_C a
example : cgsequCheck (Witness.gsequBad SLU_C) = -1 := by decide
theorem cgsequ_accepts_valid (a : GsequArgs) (h : gsequ.valid SLU_C a = true) : cgsequCheck a = 0 :=
  gsequ_chains.2.2.1 ▸ Chain.gsequ_accepts_valid SLU_C a h
example : gsequ.valid SLU_C (Witness.gsequOk SLU_C) = true ∧ cgsequCheck (Witness.gsequOk SLU_C) = 0 := by decide

theorem zgsequ_first_offender (a : GsequArgs) : zgsequCheck a = gsequ.docInfo SLU_Z a :=
  gsequ_chains.2.2.2 ▸ Chain.gsequ_first_offender SLU_Z a
example : zgsequCheck (Witness.gsequBad SLU_Z) = -1 := by decide
theorem zgsequ_accepts_valid (a : GsequArgs) (h : gsequ.valid SLU_Z a = true) : zgsequCheck a = 0 :=
  gsequ_chains.2.2.2 ▸ Chain.gsequ_accepts_valid SLU_Z a h
example : gsequ.valid SLU_Z (Witness.gsequOk SLU_Z) = true ∧ zgsequCheck (Witness.gsequOk SLU_Z) = 0 := by decide

theorem trsv_chains : sp_dtrsvCheck = Chain.trsv ∧ sp_strsvCheck = Chain.trsv ∧
    sp_ctrsvCheck = Chain.trsv ∧ sp_ztrsvCheck = Chain.trsv :=
  ⟨rfl, rfl, rfl, rfl⟩

theorem sp_dtrsv_code_table (a : TrsvArgs) : sp_dtrsvCheck a = firstOffender (Coded.trsv a) :=
  trsv_chains.1 ▸ Chain.trsv_code_table a
theorem sp_dtrsv_first_offender_partial (a : TrsvArgs) (hx : Coded.trsvExcl true SLU_D a) : sp_dtrsvCheck a = trsv.docInfo SLU_D a :=
  trsv_chains.1 ▸ Chain.trsv_first_offender_partial SLU_D a hx
example : Coded.trsvExcl true SLU_D (Witness.trsvBadDiag SLU_D) ∧ sp_dtrsvCheck (Witness.trsvBadDiag SLU_D) = -3 := by decide
theorem sp_dtrsv_types_unchecked : trsv.docInfo SLU_D (Witness.trsvBadLtype SLU_D) = -4 ∧ sp_dtrsvCheck (Witness.trsvBadLtype SLU_D) = 0 := by decide
theorem sp_dtrsv_accepts_valid (a : TrsvArgs) (h : trsv.valid SLU_D a = true) : sp_dtrsvCheck a = 0 :=
  trsv_chains.1 ▸ Chain.trsv_accepts_valid SLU_D a h
example : trsv.valid SLU_D (Witness.trsvC SLU_D) = true ∧ sp_dtrsvCheck (Witness.trsvC SLU_D) = 0 := by decide

theorem sp_strsv_code_table (a : TrsvArgs) : sp_strsvCheck a = firstOffender (Coded.trsv a) :=
  trsv_chains.2.1 ▸ Chain.trsv_code_table a
theorem sp_strsv_first_offender_partial (a : TrsvArgs) (hx : Coded.trsvExcl true SLU_S a) : sp_strsvCheck a = trsv.docInfo SLU_S a :=
  trsv_chains.2.1 ▸ Chain.trsv_first_offender_partial SLU_S a hx
example : Coded.trsvExcl true SLU_S (Witness.trsvBadDiag SLU_S) ∧ sp_strsvCheck (Witness.trsvBadDiag SLU_S) = -3 := by decide
theorem sp_strsv_types_unchecked : trsv.docInfo SLU_S (Witness.trsvBadLtype SLU_S) = -4 ∧ sp_strsvCheck (Witness.trsvBadLtype SLU_S) = 0 := by decide
theorem sp_strsv_accepts_valid (a : TrsvArgs) (h : trsv.valid SLU_S a = true) : sp_strsvCheck a = 0 :=
  trsv_chains.2.1 ▸ Chain.trsv_accepts_valid SLU_S a h
example : trsv.valid SLU_S (Witness.trsvC SLU_S) = true ∧ sp_strsvCheck (Witness.trsvC SLU_S) = 0 := by decide

theorem sp_ctrsv_code_table (a : TrsvArgs) : sp_ctrsvCheck a = firstOffender (Coded.trsv a) :=
  trsv_chains.2.2.1 ▸ Chain.trsv_code_table a
theorem sp_ctrsv_first_offender_partial (a : TrsvArgs) (hx : Coded.trsvExcl true SLU_C a) : sp_ctrsvCheck a = trsv.docInfo SLU_C a :=
  trsv_chains.2.2.1 ▸ Chain.trsv_first_offender_partial SLU_C a hx
example : Coded.trsvExcl true SLU_C (Witness.trsvBadDiag SLU_C) ∧ sp_ctrsvCheck (Witness.trsvBadDiag SLU_C) = -3 := by decide
theorem sp_ctrsv_types_unchecked : trsv.docInfo SLU_C (Witness.trsvBadLtype SLU_C) = -4 ∧ sp_ctrsvCheck (Witness.trsvBadLtype SLU_C) = 0 := by decide
theorem sp_ctrsv_accepts_valid (a : TrsvArgs) (h : trsv.valid SLU_C a = true) : sp_ctrsvCheck a = 0 :=
  trsv_chains.2.2.1 ▸ Chain.trsv_accepts_valid SLU_C a h
example : trsv.valid SLU_C (Witness.trsvC SLU_C) = true ∧ sp_ctrsvCheck (Witness.trsvC SLU_C) = 0 := by decide

theorem sp_ztrsv_code_table (a : TrsvArgs) : sp_ztrsvCheck a = firstOffender (Coded.trsv a) :=
  trsv_chains.2.2.2 ▸ Chain.trsv_code_table a
theorem sp_ztrsv_first_offender_partial (a : TrsvArgs) (hx : Coded.trsvExcl true SLU_Z a) : sp_ztrsvCheck a = trsv.docInfo SLU_Z a :=
  trsv_chains.2.2.2 ▸ Chain.trsv_first_offender_partial SLU_Z a hx
example : Coded.trsvExcl true SLU_Z (Witness.trsvBadDiag SLU_Z) ∧ sp_ztrsvCheck (Witness.trsvBadDiag SLU_Z) = -3 := by decide
theorem sp_ztrsv_types_unchecked : trsv.docInfo SLU_Z (Witness.trsvBadLtype SLU_Z) = -4 ∧ sp_ztrsvCheck (Witness.trsvBadLtype SLU_Z) = 0 := by decide
theorem sp_ztrsv_accepts_valid (a : TrsvArgs) (h : trsv.valid SLU_Z a = true) : sp_ztrsvCheck a = 0 :=
  trsv_chains.2.2.2 ▸ Chain.trsv_accepts_valid SLU_Z a h
example : trsv.valid SLU_Z (Witness.trsvC SLU_Z) = true ∧ sp_ztrsvCheck (Witness.trsvC SLU_Z) = 0 := by decide

theorem gemv_chains : sp_dgemvCheck = Chain.gemv ∧ sp_sgemvCheck = Chain.gemv ∧
    sp_cgemvCheck = Chain.gemv ∧ sp_zgemvCheck = Chain.gemv :=
  ⟨rfl, rfl, rfl, rfl⟩

theorem sp_dgemv_code_table (a : GemvArgs) : sp_dgemvCheck a = firstOffender (Coded.gemv a) :=
  gemv_chains.1 ▸ Chain.gemv_code_table a
theorem sp_dgemv_first_offender_partial (a : GemvArgs) (h3 : gemv.types_3 SLU_D a = false) : sp_dgemvCheck a = gemv.docInfo SLU_D a :=
  gemv_chains.1 ▸ Chain.gemv_first_offender_partial SLU_D a h3
example : gemv.types_3 SLU_D (Witness.gemvBadIncy SLU_D) = false ∧ sp_dgemvCheck (Witness.gemvBadIncy SLU_D) = -8 := by decide
theorem sp_dgemv_A_type_unchecked : gemv.docInfo SLU_D (Witness.gemvBadAtype SLU_D) = -3 ∧ sp_dgemvCheck (Witness.gemvBadAtype SLU_D) = 0 := by decide
theorem sp_dgemv_accepts_valid (a : GemvArgs) (h : gemv.valid SLU_D a = true) : sp_dgemvCheck a = 0 :=
  gemv_chains.1 ▸ Chain.gemv_accepts_valid SLU_D a h
example : gemv.valid SLU_D (Witness.gemvOk SLU_D) = true ∧ sp_dgemvCheck (Witness.gemvOk SLU_D) = 0 := by decide

theorem sp_sgemv_code_table (a : GemvArgs) : sp_sgemvCheck a = firstOffender (Coded.gemv a) :=
  gemv_chains.2.1 ▸ Chain.gemv_code_table a
theorem sp_sgemv_first_offender_partial (a : GemvArgs) (h3 : gemv.types_3 SLU_S a = false) : sp_sgemvCheck a = gemv.docInfo SLU_S a :=
  gemv_chains.2.1 ▸ Chain.gemv_first_offender_partial SLU_S a h3
example : gemv.types_3 SLU_S (Witness.gemvBadIncy SLU_S) = false ∧ sp_sgemvCheck (Witness.gemvBadIncy SLU_S) = -8 := by decide
theorem sp_sgemv_A_type_unchecked : gemv.docInfo SLU_S (Witness.gemvBadAtype SLU_S) = -3 ∧ sp_sgemvCheck (Witness.gemvBadAtype SLU_S) = 0 := by decide
theorem sp_sgemv_accepts_valid (a : GemvArgs) (h : gemv.valid SLU_S a = true) : sp_sgemvCheck a = 0 :=
  gemv_chains.2.1 ▸ Chain.gemv_accepts_valid SLU_S a h
example : gemv.valid SLU_S (Witness.gemvOk SLU_S) = true ∧ sp_sgemvCheck (Witness.gemvOk SLU_S) = 0 := by decide

theorem sp_cgemv_code_table (a : GemvArgs) : sp_cgemvCheck a = firstOffender (Coded.gemv a) :=
  gemv_chains.2.2.1 ▸ Chain.gemv_code_table a
theorem sp_cgemv_first_offender_partial (a : GemvArgs) (h3 : gemv.types_3 SLU_C a = false) : sp_cgemvCheck a = gemv.docInfo SLU_C a :=
  gemv_chains.2.2.1 ▸ Chain.gemv_first_offender_partial SLU_C a h3
example : gemv.types_3 SLU_C (Witness.gemvBadIncy SLU_C) = false ∧ sp_cgemvCheck (Witness.gemvBadIncy SLU_C) = -8 := by decide
theorem sp_cgemv_A_type_unchecked : gemv.docInfo SLU_C (Witness.gemvBadAtype SLU_C) = -3 ∧ sp_cgemvCheck (Witness.gemvBadAtype SLU_C) = 0 := by decide
theorem sp_cgemv_accepts_valid (a : GemvArgs) (h : gemv.valid SLU_C a = true) : sp_cgemvCheck a = 0 :=
  gemv_chains.2.2.1 ▸ Chain.gemv_accepts_valid SLU_C a h
example : gemv.valid SLU_C (Witness.gemvOk SLU_C) = true ∧ sp_cgemvCheck (Witness.gemvOk SLU_C) = 0 := by decide

theorem sp_zgemv_code_table (a : GemvArgs) : sp_zgemvCheck a = firstOffender (Coded.gemv a) :=
  gemv_chains.2.2.2 ▸ Chain.gemv_code_table a
theorem sp_zgemv_first_offender_partial (a : GemvArgs) (h3 : gemv.types_3 SLU_Z a = false) : sp_zgemvCheck a = gemv.docInfo SLU_Z a :=
  gemv_chains.2.2.2 ▸ Chain.gemv_first_offender_partial SLU_Z a h3
example : gemv.types_3 SLU_Z (Witness.gemvBadIncy SLU_Z) = false ∧ sp_zgemvCheck (Witness.gemvBadIncy SLU_Z) = -8 := by decide
theorem sp_zgemv_A_type_unchecked : gemv.docInfo SLU_Z (Witness.gemvBadAtype SLU_Z) = -3 ∧ sp_zgemvCheck (Witness.gemvBadAtype SLU_Z) = 0 := by decide
theorem sp_zgemv_accepts_valid (a : GemvArgs) (h : gemv.valid SLU_Z a = true) : sp_zgemvCheck a = 0 :=
  gemv_chains.2.2.2 ▸ Chain.gemv_accepts_valid SLU_Z a h
example : gemv.valid SLU_Z (Witness.gemvOk SLU_Z) = true ∧ sp_zgemvCheck (Witness.gemvOk SLU_Z) = 0 := by decide

/-! ### the check precedes every effect
    `<routine>PreWrites`: every store through a pointer parameter (other than `*info`) executed before the error
    return.  The translator rejects any other kind of statement there (a call, e.g. an allocation, makes the generator
    fail), so the lists are all caller-visible effects of a rejected call.  p?gssvx stores the two permutation pointers
    into the caller's option structure and (fact ≠ FACTORED) resets `*equed`; no matrix, permutation or scale array is
    written. -/

theorem gssv_precedes_effects : pdgssvPreWrites = [] ∧ psgssvPreWrites = [] ∧ pcgssvPreWrites = [] ∧ pzgssvPreWrites = [] := by decide
theorem gssvx_precedes_effects : pdgssvxPreWrites = ["superlumt_options->perm_c", "superlumt_options->perm_r", "*equed"] ∧ psgssvxPreWrites = ["superlumt_options->perm_c", "superlumt_options->perm_r", "*equed"] ∧ pcgssvxPreWrites = ["superlumt_options->perm_c", "superlumt_options->perm_r", "*equed"] ∧ pzgssvxPreWrites = ["superlumt_options->perm_c", "superlumt_options->perm_r", "*equed"] := ⟨rfl, rfl, rfl, rfl⟩
theorem gstrs_precedes_effects : dgstrsPreWrites = [] ∧ sgstrsPreWrites = [] ∧ cgstrsPreWrites = [] ∧ zgstrsPreWrites = [] := by decide
theorem gsrfs_precedes_effects : dgsrfsPreWrites = [] ∧ sgsrfsPreWrites = [] ∧ cgsrfsPreWrites = [] ∧ zgsrfsPreWrites = [] := by decide
theorem gscon_precedes_effects : dgsconPreWrites = [] ∧ sgsconPreWrites = [] ∧ cgsconPreWrites = [] ∧ zgsconPreWrites = [] := by decide
theorem gsequ_precedes_effects : dgsequPreWrites = [] ∧ sgsequPreWrites = [] ∧ cgsequPreWrites = [] ∧ zgsequPreWrites = [] := by decide
theorem trsv_precedes_effects : sp_dtrsvPreWrites = [] ∧ sp_strsvPreWrites = [] ∧ sp_ctrsvPreWrites = [] ∧ sp_ztrsvPreWrites = [] := by decide
theorem gemv_precedes_effects : sp_dgemvPreWrites = [] ∧ sp_sgemvPreWrites = [] ∧ sp_cgemvPreWrites = [] ∧ sp_zgemvPreWrites = [] := by decide

theorem gssv_xerbla_names : pdgssvXerblaName = "pdgssv" ∧ psgssvXerblaName = "psgssv" ∧ pcgssvXerblaName = "pcgssv" ∧ pzgssvXerblaName = "pzgssv" := ⟨rfl, rfl, rfl, rfl⟩
theorem gssvx_xerbla_names : pdgssvxXerblaName = "pdgssvx" ∧ psgssvxXerblaName = "psgssvx" ∧ pcgssvxXerblaName = "pcgssvx" ∧ pzgssvxXerblaName = "pzgssvx" := ⟨rfl, rfl, rfl, rfl⟩
theorem gstrs_xerbla_names : dgstrsXerblaName = "dgstrs" ∧ sgstrsXerblaName = "sgstrs" ∧ cgstrsXerblaName = "cgstrs" ∧ zgstrsXerblaName = "zgstrs" := ⟨rfl, rfl, rfl, rfl⟩
theorem gsrfs_xerbla_names : dgsrfsXerblaName = "dgsrfs" ∧ sgsrfsXerblaName = "sgsrfs" ∧ cgsrfsXerblaName = "cgsrfs" ∧ zgsrfsXerblaName = "zgsrfs" := ⟨rfl, rfl, rfl, rfl⟩
theorem gscon_xerbla_names : dgsconXerblaName = "dgscon" ∧ sgsconXerblaName = "sgscon" ∧ cgsconXerblaName = "cgscon" ∧ zgsconXerblaName = "zgscon" := ⟨rfl, rfl, rfl, rfl⟩
theorem gsequ_xerbla_names : dgsequXerblaName = "dgsequ" ∧ sgsequXerblaName = "sgsequ" ∧ cgsequXerblaName = "cgsequ" ∧ zgsequXerblaName = "zgsequ" := ⟨rfl, rfl, rfl, rfl⟩
theorem trsv_xerbla_names : sp_dtrsvXerblaName = "sp_dtrsv" ∧ sp_strsvXerblaName = "sp_strsv" ∧ sp_ctrsvXerblaName = "sp_ctrsv" ∧ sp_ztrsvXerblaName = "sp_ztrsv" := ⟨rfl, rfl, rfl, rfl⟩
theorem gemv_xerbla_names : sp_dgemvXerblaName = "sp_dgemv " ∧ sp_sgemvXerblaName = "sp_sgemv " ∧ sp_cgemvXerblaName = "sp_cgemv " ∧ sp_zgemvXerblaName = "sp_zgemv " := ⟨rfl, rfl, rfl, rfl⟩

/-- p?gssvx scans `C` over `A->nrow` although C has dimension `A->ncol`: when the scan is reached the A test has passed
    and the two coincide -/
theorem gssvx_C_scan_bound_harmless (dt : Int) (a : GssvxArgs) (h3 : gssvx.violates_3 dt a = false) :
    someNonPos a.C a.A_nrow = someNonPos a.C a.A_ncol := by
  simp only [gssvx.violates_3, decide_eq_false_iff_not] at h3
  have : a.A_nrow = a.A_ncol := by omega
  rw [this]
example : someNonPos [1, 0] 1 ≠ someNonPos [1, 0] 2 := by decide

end Slu.C15
