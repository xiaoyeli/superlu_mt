/-
C02 — pivot policy of `p?gstrf_pivotL`, for every column shape, threshold and candidate set: complete case table,
threshold / multiplier bound, diagonal preference, first-maximum tie rule, pivot reuse.  (The floating-point clause is
decided per run by the verified checker, Props/Checkers.lean.)
-/
import SluVerif.Proofs.PivotLemmas

namespace Slu

/-- the candidate pivots: positions `nsupc .. nsupr-1` of the row list -/
def PivIn.cand (p : PivIn) (i : Nat) : Prop := p.nsupc ≤ i ∧ i < p.rows.size
def PivIn.mag (p : PivIn) (i : Nat) : Rat := p.mags.getD i 0
def PivIn.row (p : PivIn) (i : Nat) : Int := p.rows.getD i 0

/-- magnitudes are non-negative (true of `fabs` and of `|re|+|im|`) -/
def PivIn.MagsNonneg (p : PivIn) : Prop := ∀ i, 0 ≤ p.mag i

abbrev PivIn.Inv (p : PivIn) (s : Scan) : Prop :=
  ScanInv p.rows p.mags p.usepr p.pivrow0 p.diagInd p.nsupc p.rows.size s

/-- the test `rtemp != 0.0 && rtemp >= thresh` applied to position `i` -/
def PivIn.passes (p : PivIn) (s : Scan) (i : Nat) : Prop := p.mag i ≠ 0 ∧ p.u * s.pivmax ≤ p.mag i

/-- the four exits of `pivotL` after the scan, each with the tests that led to it (`PivSel` in field order:
`outOfRange`, `info`, `pivptr`, `pivrow`, `usepr`, `swapped`) -/
theorem pivotDecide_cases (p : PivIn) (s : Scan) :
    (s.pivmax = 0 ∧ pivotDecide p s =
        ⟨decide (p.rows.size ≤ s.pivptr), p.jcol + 1, s.pivptr, p.row s.pivptr, false, false⟩) ∨
    s.pivmax ≠ 0 ∧
      ((p.usepr = true ∧ p.passes s s.oldPtr ∧
          pivotDecide p s = ⟨false, 0, s.oldPtr, p.oldPivRow, true, true⟩) ∨
       ¬(p.usepr = true ∧ p.passes s s.oldPtr) ∧
        ((∃ d, s.diag = some d ∧ p.passes s d ∧ pivotDecide p s = ⟨false, 0, d, p.row d, false, true⟩) ∨
         (∀ d, s.diag = some d → ¬p.passes s d) ∧
           pivotDecide p s = ⟨false, 0, s.pivptr, p.row s.pivptr, false, true⟩)) := by
  unfold pivotDecide PivIn.passes PivIn.mag PivIn.row
  by_cases h0 : s.pivmax = 0
  · exact .inl ⟨h0, if_pos h0⟩
  · refine .inr ⟨h0, ?_⟩
    simp only [if_neg h0, Bool.and_eq_true, decide_eq_true_eq]
    by_cases ho : p.usepr = true ∧ p.mags.getD s.oldPtr 0 ≠ 0 ∧ p.u * s.pivmax ≤ p.mags.getD s.oldPtr 0
    · exact .inl ⟨ho.1, ho.2, if_pos ho⟩
    · refine .inr ⟨ho, ?_⟩
      rw [if_neg ho]
      cases hd : s.diag with
      | none => exact .inr ⟨fun d hdd => (nomatch hdd), rfl⟩
      | some d =>
        by_cases hp : p.mags.getD d 0 ≠ 0 ∧ p.u * s.pivmax ≤ p.mags.getD d 0
        · exact .inl ⟨d, rfl, hp, by simp only [if_pos hp]⟩
        · refine .inr ⟨fun d' hdd => ?_, by simp only [if_neg hp]⟩
          cases hdd
          exact hp

theorem PivIn.inv_scan (p : PivIn) : p.Inv (scan p.rows p.mags p.usepr p.pivrow0 p.diagInd p.nsupc p.rows.size) :=
  scan_inv ..

theorem pivotDecide_info (p : PivIn) (s : Scan) : (pivotDecide p s).info = 0 ↔ s.pivmax ≠ 0 := by
  rcases pivotDecide_cases p s with ⟨h0, e⟩ | ⟨h0, ⟨_, _, e⟩ | ⟨_, ⟨d, _, _, e⟩ | ⟨_, e⟩⟩⟩
  · -- the singular exit
    rw [e]
    exact ⟨fun h => absurd h (Nat.succ_ne_zero _), fun h => absurd h0 h⟩
  all_goals
    rw [e]
    exact ⟨fun _ => h0, fun _ => rfl⟩

theorem pivotDecide_cand_nonzero_passes (p : PivIn) (s : Scan) (inv : p.Inv s) (h0 : s.pivmax ≠ 0) :
    p.cand (pivotDecide p s).pivptr ∧ p.mag (pivotDecide p s).pivptr ≠ 0 ∧
      (p.u ≤ 1 → p.u * s.pivmax ≤ p.mag (pivotDecide p s).pivptr) := by
  obtain ⟨hc, hmax, -⟩ := inv.arg h0
  rcases pivotDecide_cases p s with ⟨h, -⟩ | ⟨-, ⟨-, ho, e⟩ | ⟨-, ⟨d, hd, hp, e⟩ | ⟨-, e⟩⟩⟩
  · exact absurd h h0
  · rw [e]
    refine ⟨?_, ho.1, fun _ => ho.2⟩
    -- without a match `oldPtr` is still the first candidate position
    rcases inv.old with ⟨o1, -⟩ | ⟨-, o2, -⟩
    · exact o1 ▸ ⟨le_refl _, lt_of_le_of_lt hc.1 hc.2⟩
    · exact o2
  · rw [e]
    exact ⟨(inv.diagSome d hd).1, hp.1, fun _ => hp.2⟩
  · -- the first maximum has not been tested: it passes when `u ≤ 1`
    rw [e]
    refine ⟨hc, fun h => h0 (hmax.symm.trans h), fun hu1 => ?_⟩
    show p.u * s.pivmax ≤ p.mags.getD s.pivptr 0
    rw [hmax]
    exact mul_le_of_le_one_left inv.nonneg hu1

theorem pivot_singular_iff (p : PivIn) (hm : p.MagsNonneg) :
    (pivotSelect p).info ≠ 0 ↔ ∀ i, p.cand i → p.mag i = 0 := by
  have inv := p.inv_scan
  rw [pivotSelect, Ne, pivotDecide_info, not_not]
  constructor
  · exact fun h0 i hi => le_antisymm (h0 ▸ inv.ub i hi) (hm i)
  · intro hall
    by_contra h0
    obtain ⟨hc, hmax, -⟩ := inv.arg h0
    exact h0 (hmax.symm.trans (hall _ hc))

theorem pivot_singular_shape (p : PivIn) (h : (pivotSelect p).info ≠ 0) :
    (pivotSelect p).info = p.jcol + 1 ∧ (pivotSelect p).usepr = false ∧ (pivotSelect p).swapped = false ∧
    (pivotSelect p).pivptr = p.nsupc := by
  have inv := p.inv_scan
  rw [pivotSelect, Ne, pivotDecide_info, not_not] at h
  rcases pivotDecide_cases p _ with ⟨-, e⟩ | ⟨h0, -⟩
  · rw [pivotSelect, e]
    exact ⟨rfl, rfl, rfl, inv.zero h⟩
  · exact absurd h h0

/-- the C code reads `lsub_ptr[nsupc]` past the row list exactly when there is no candidate (`nsupr ≤ nsupc`) -/
theorem pivot_outOfRange_iff (p : PivIn) : (pivotSelect p).outOfRange = true ↔ p.rows.size ≤ p.nsupc := by
  have inv := p.inv_scan
  rcases pivotDecide_cases p _ with ⟨h0, e⟩ | ⟨h0, ⟨_, _, e⟩ | ⟨_, ⟨d, _, _, e⟩ | ⟨_, e⟩⟩⟩
  all_goals rw [pivotSelect, e]
  · simp only [inv.zero h0, decide_eq_true_eq]
  all_goals
    have := (inv.arg h0).1
    simp only [Bool.false_eq_true, false_iff, not_le]
    exact lt_of_le_of_lt this.1 this.2

/-- whichever rule fired (pivot reuse included) -/
theorem pivot_passes_threshold (p : PivIn) (hu0 : 0 ≤ p.u) (hu1 : p.u ≤ 1) (h : (pivotSelect p).info = 0) :
    p.cand (pivotSelect p).pivptr ∧ p.mag (pivotSelect p).pivptr ≠ 0 ∧
    ∀ i, p.cand i → p.u * p.mag i ≤ p.mag (pivotSelect p).pivptr := by
  have inv := p.inv_scan
  obtain ⟨h1, h2, h3⟩ := pivotDecide_cand_nonzero_passes p _ inv ((pivotDecide_info p _).1 h)
  exact ⟨h1, h2, fun i hi => le_trans (mul_le_mul_of_nonneg_left (inv.ub i hi) hu0) (h3 hu1)⟩

theorem pivot_threshold (p : PivIn) (hm : p.MagsNonneg) (hu0 : 0 ≤ p.u) (hu1 : p.u ≤ 1)
    (h : (pivotSelect p).info = 0) :
    p.cand (pivotSelect p).pivptr ∧ p.mag (pivotSelect p).pivptr ≠ 0 ∧
    ∀ i, p.cand i → p.u * p.mag i ≤ p.mag (pivotSelect p).pivptr :=
  pivot_passes_threshold p hu0 hu1 h

theorem pivot_multiplier_bound (p : PivIn) (hm : p.MagsNonneg) (hu0 : 0 < p.u) (hu1 : p.u ≤ 1)
    (h : (pivotSelect p).info = 0) (i : Nat) (hi : p.cand i) :
    p.mag i / p.mag (pivotSelect p).pivptr ≤ 1 / p.u := by
  obtain ⟨_, hne, hb⟩ := pivot_passes_threshold p (le_of_lt hu0) hu1 h
  have hpos : 0 < p.mag (pivotSelect p).pivptr := lt_of_le_of_ne (hm _) (Ne.symm hne)
  rw [div_le_div_iff₀ hpos hu0, one_mul, mul_comm]
  exact hb i hi

/-- when the call ends with `usepr = NO` (not requested, or abandoned) -/
theorem pivot_diag_preferred (p : PivIn)
    (h : (pivotSelect p).info = 0) (hus : (pivotSelect p).usepr = false)
    (d : Nat) (hd : p.cand d) (hrow : p.row d = p.diagInd)
    (huniq : ∀ i, p.cand i → p.row i = p.diagInd → i = d)
    (hne : p.mag d ≠ 0) (hge : ∀ i, p.cand i → p.u * p.mag i ≤ p.mag d) :
    (pivotSelect p).pivptr = d ∧ (pivotSelect p).pivrow = p.diagInd := by
  have inv := p.inv_scan
  unfold pivotSelect at h hus ⊢
  rcases pivotDecide_cases p _ with ⟨h0, e⟩ | ⟨h0, ⟨_, _, e⟩ | ⟨_, ⟨d', hd', _, e⟩ | ⟨hno, e⟩⟩⟩
  all_goals rw [e] at h hus ⊢
  · cases h
  · cases hus
  · obtain ⟨c, r⟩ := inv.diagSome d' hd'
    exact ⟨huniq d' c r, r⟩
  · exfalso
    obtain ⟨hc, hmax, -⟩ := inv.arg h0
    cases hdg : (scan p.rows p.mags p.usepr p.pivrow0 p.diagInd p.nsupc p.rows.size).diag with
    | none => exact inv.diagNone hdg d hd hrow
    | some d' =>
      obtain ⟨c, r⟩ := inv.diagSome d' hdg
      exact hno d' hdg (huniq d' c r ▸ ⟨hne, hmax ▸ hge _ hc⟩)

/-- the documented tie rule: strict `>` in the scan.  `hnodiag`: a diagonal candidate, if any, fails the test (it is zero
or below `u ·` some candidate) -/
theorem pivot_else_first_max (p : PivIn) (hu0 : 0 ≤ p.u)
    (h : (pivotSelect p).info = 0) (hus : (pivotSelect p).usepr = false)
    (hnodiag : ∀ d, p.cand d → p.row d = p.diagInd →
        p.mag d = 0 ∨ ∃ i, p.cand i ∧ p.mag d < p.u * p.mag i) :
    p.cand (pivotSelect p).pivptr ∧
    (∀ i, p.cand i → p.mag i ≤ p.mag (pivotSelect p).pivptr) ∧
    (∀ i, p.cand i → i < (pivotSelect p).pivptr → p.mag i < p.mag (pivotSelect p).pivptr) := by
  have inv := p.inv_scan
  unfold pivotSelect at h hus ⊢
  rcases pivotDecide_cases p _ with ⟨h0, e⟩ | ⟨h0, ⟨_, _, e⟩ | ⟨_, ⟨d, hd, hp, e⟩ | ⟨_, e⟩⟩⟩
  all_goals rw [e] at h hus ⊢
  · cases h
  · cases hus
  · exfalso
    obtain ⟨c, r⟩ := inv.diagSome d hd
    rcases hnodiag d c r with hz | ⟨i, hi, hlt⟩
    · exact hp.1 hz
    · exact absurd (lt_of_lt_of_le hlt (mul_le_mul_of_nonneg_left (inv.ub i hi) hu0)) (not_lt.2 hp.2)
  · obtain ⟨hc, hmax, hfirst⟩ := inv.arg h0
    exact ⟨hc, fun i hi => le_of_le_of_eq (inv.ub i hi) hmax.symm,
      fun i hi hlt => lt_of_lt_of_eq (hfirst i ⟨hi.1, hlt⟩) hmax.symm⟩

theorem pivot_usepr_kept (p : PivIn) (hm : p.MagsNonneg)
    (hreq : p.usepr = true) (o : Nat) (ho : p.cand o) (hrow : p.row o = p.oldPivRow)
    (hne : p.mag o ≠ 0) (hge : ∀ i, p.cand i → p.u * p.mag i ≤ p.mag o)
    (huniq : ∀ i, p.cand i → p.row i = p.oldPivRow → i = o) :
    (pivotSelect p).usepr = true ∧ (pivotSelect p).pivrow = p.oldPivRow ∧ (pivotSelect p).info = 0 ∧
    (pivotSelect p).pivptr = o := by
  have inv := p.inv_scan
  have hp0 : p.pivrow0 = p.oldPivRow := if_pos hreq
  have hq : (scan p.rows p.mags p.usepr p.pivrow0 p.diagInd p.nsupc p.rows.size).oldPtr = o := by
    rcases inv.old with ⟨-, o2⟩ | ⟨-, q2, q3⟩
    · exact absurd (hrow.trans hp0.symm) (o2 hreq o ho)
    · exact huniq _ q2 (q3.trans hp0)
  unfold pivotSelect
  rcases pivotDecide_cases p _ with ⟨h0, -⟩ | ⟨h0, ⟨-, -, e⟩ | ⟨hno, -⟩⟩
  · exact absurd (le_antisymm (h0 ▸ inv.ub o ho) (hm o)) hne
  · rw [e]
    exact ⟨rfl, rfl, rfl, hq⟩
  · obtain ⟨hc, hmax, -⟩ := inv.arg h0
    exact absurd ⟨hreq, hq ▸ ⟨hne, hmax ▸ hge _ hc⟩⟩ hno

theorem pivotDecide_usepr_off (p : PivIn) (s : Scan) (hus : p.usepr = false) : (pivotDecide p s).usepr = false := by
  rcases pivotDecide_cases p s with ⟨-, e⟩ | ⟨-, ⟨h, -⟩ | ⟨-, ⟨d, -, -, e⟩ | ⟨-, e⟩⟩⟩
  · rw [e]
  · rw [hus] at h
    cases h
  · rw [e]
  · rw [e]

theorem pivot_diag_at_zero_threshold (p : PivIn) (hm : p.MagsNonneg) (hu : p.u = 0)
    (hus : p.usepr = false)
    (d : Nat) (hd : p.cand d) (hrow : p.row d = p.diagInd)
    (huniq : ∀ i, p.cand i → p.row i = p.diagInd → i = d) (hne : p.mag d ≠ 0) :
    (pivotSelect p).info = 0 ∧ (pivotSelect p).pivptr = d ∧ (pivotSelect p).pivrow = p.diagInd := by
  have hinfo : (pivotSelect p).info = 0 := by
    by_contra hc
    exact hne ((pivot_singular_iff p hm).1 hc d hd)
  exact ⟨hinfo, pivot_diag_preferred p hinfo (pivotDecide_usepr_off p _ hus) d hd hrow huniq hne
    (fun i _ => by
      rw [hu, zero_mul]
      exact hm d)⟩

theorem pivot_nonzero (p : PivIn) (h : (pivotSelect p).info = 0) : p.mag (pivotSelect p).pivptr ≠ 0 :=
  (pivotDecide_cand_nonzero_passes p _ p.inv_scan ((pivotDecide_info p _).1 h)).2.1

theorem pivot_ptr_cand (p : PivIn) (hne : p.nsupc < p.rows.size) : p.cand (pivotSelect p).pivptr := by
  by_cases h : (pivotSelect p).info = 0
  · exact (pivotDecide_cand_nonzero_passes p _ p.inv_scan ((pivotDecide_info p _).1 h)).1
  · rw [(pivot_singular_shape p h).2.2.2]
    exact ⟨le_refl _, hne⟩

def exPiv : PivIn :=
  { jcol := 2, nsupc := 1, rows := #[0, 5, 2, 7], mags := #[9, 1, 3, 4], u := 1/2, usepr := false, oldPivRow := 0, diagInd := 2 }

example : (pivotSelect exPiv).info = 0 ∧ (pivotSelect exPiv).pivrow = 2 ∧ (pivotSelect exPiv).pivptr = 2 := by decide +kernel
example : (pivotSelect { exPiv with u := 1 }).pivrow = 7 := by decide +kernel  -- threshold 1: the maximum wins
example : (pivotSelect { exPiv with mags := #[9, 0, 0, 0] }).info = 3 := by decide +kernel  -- all candidates zero
example : (pivotSelect { exPiv with rows := #[0] , mags := #[9] }).outOfRange = true := by decide +kernel  -- no candidate row

end Slu
