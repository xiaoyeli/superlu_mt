/- C14 — the caller's workspace is handled without corruption (allocator part, Model/UserStack.lean): a served request
   lies inside the free gap; the aligned real work array lies inside its (dsize + 8)-byte block; under the worker
   protocol no two workers hold overlapping blocks and the tail is released only when nobody holds it; the two original
   behaviours (repaired in /repo by 371e0b6 and 915999e) do hand out overlapping memory. -/
import SluVerif.Model.UserStack
import SluVerif.Proofs.ListLemmas
import Mathlib.Tactic.Linarith

namespace Slu

theorem mallocTail_result (s : UStack) (b : Int) (hu : s.used = s.top1 + (s.size - s.top2)) :
    (∀ off s', s.mallocTail b = (s', some off) →
        off = s.top2 - b ∧ s'.top2 = off ∧ s'.top1 = s.top1 ∧ s'.size = s.size ∧ s'.tailUsers = s.tailUsers ∧
        s.top1 < off ∧ s'.used = s'.top1 + (s'.size - s'.top2)) ∧
    (∀ s', s.mallocTail b = (s', none) → s' = s) := by
  unfold UStack.mallocTail UStack.full
  constructor
  · intro off s' h
    split at h
    · exact absurd (congrArg Prod.snd h) (by simp)
    · next hf =>
      simp only [decide_eq_true_eq] at hf
      obtain ⟨rfl, rfl⟩ := h
      exact ⟨rfl, rfl, rfl, rfl, rfl, by omega, by dsimp only; omega⟩
  · intro s' h
    split at h
    · exact (congrArg Prod.fst h).symm
    · exact absurd (congrArg Prod.snd h) (by simp)

-- `mallocTail_result` with the unneeded `0 ≤ b`: the form C14 is named under (likewise `mallocHead_spec`)
theorem mallocTail_spec (s : UStack) (b : Int) (hb : 0 ≤ b) (hu : s.used = s.top1 + (s.size - s.top2)) :
    (∀ off s', s.mallocTail b = (s', some off) →
        off = s.top2 - b ∧ s'.top2 = off ∧ s'.top1 = s.top1 ∧ s'.size = s.size ∧ s'.tailUsers = s.tailUsers ∧
        s.top1 < off ∧ s'.used = s'.top1 + (s'.size - s'.top2)) ∧
    (∀ s', s.mallocTail b = (s', none) → s' = s) :=
  mallocTail_result s b hu

theorem mallocHead_result (s : UStack) (b : Int) (hu : s.used = s.top1 + (s.size - s.top2)) :
    ∀ off s', s.mallocHead b = (s', some off) →
        off = s.top1 ∧ s'.top1 = off + b ∧ s'.top2 = s.top2 ∧ s'.top1 < s'.top2 ∧ s'.used = s'.top1 + (s'.size - s'.top2) := by
  unfold UStack.mallocHead UStack.full
  intro off s' h
  split at h
  · simp at h
  · next hf =>
    simp only [decide_eq_true_eq] at hf
    obtain ⟨rfl, rfl⟩ := h
    exact ⟨rfl, rfl, rfl, by dsimp only; omega, by dsimp only; omega⟩

theorem mallocHead_spec (s : UStack) (b : Int) (_hb : 0 ≤ b) (hu : s.used = s.top1 + (s.size - s.top2)) :
    ∀ off s', s.mallocHead b = (s', some off) →
        off = s.top1 ∧ s'.top1 = off + b ∧ s'.top2 = s.top2 ∧ s'.top1 < s'.top2 ∧ s'.used = s'.top1 + (s'.size - s'.top2) :=
  mallocHead_result s b hu

theorem alignUp_spec (base8 off : Int) :
    off ≤ alignUp base8 off ∧ alignUp base8 off < off + 8 ∧ (base8 + alignUp base8 off) % 8 = 0 := by
  unfold alignUp
  -- with `A = base8 + off`: `(A + 7) / 8 * 8 = A + 7 - (A + 7) % 8`, a multiple of 8 in `[A, A + 7]`
  refine ⟨?_, ?_, ?_⟩ <;> omega

/-- counted in `tail_users`: a failed worker has done `++tail_users` and never calls `p?gstrf_WorkFree` -/
def activePc : WPc → Bool
  | .counted => true
  | .gotI _ => true
  | .gotD _ _ => true
  | .failed => true
  | _ => false

def cntA (pcs : List WPc) : Int := ((pcs.filter activePc).length : Int)

theorem cntA_eq_countP (l : List WPc) : cntA l = (l.countP activePc : Int) := by
  rw [cntA, List.countP_eq_length_filter]

theorem cntA_cons (a : WPc) (l : List WPc) : cntA (a :: l) = cntA l + (if activePc a then 1 else 0) := by
  unfold cntA
  rw [List.filter_cons]
  split <;> simp

theorem cntA_set (l : List WPc) (i : Nat) (old x : WPc) (h : l[i]? = some old) :
    cntA (l.set i x) + (if activePc old then 1 else 0) = cntA l + (if activePc x then 1 else 0) := by
  induction l generalizing i with
  | nil => cases h
  | cons a t ih =>
    cases i with
    | zero =>
      cases h
      simp only [List.set_cons_zero, cntA_cons]
      omega
    | succ i =>
      have := ih i h
      simp only [List.set_cons_succ, cntA_cons]
      omega

-- `inb`: held blocks lie in the tail `[top2, size)`; `cross`: blocks of different workers are disjoint
structure WInv (isz dsz : Int) (s : WSys) : Prop where
  top : s.st.top1 ≤ s.st.top2 ∧ s.st.top2 ≤ s.st.size
  used : s.st.used = s.st.top1 + (s.st.size - s.st.top2)
  users : s.st.tailUsers = cntA s.pcs
  inb : ∀ (i : Nat) pc, s.pcs[i]? = some pc → ∀ b ∈ wblocks isz dsz pc, s.st.top2 ≤ b.1 ∧ b.1 + b.2 ≤ s.st.size
  -- a worker's real block lies below its integer block
  own : ∀ (i : Nat) offI offD, s.pcs[i]? = some (.gotD offI offD) → offD + (dsz + 8) ≤ offI
  cross : ∀ (i j : Nat) pi pj, i ≠ j → s.pcs[i]? = some pi → s.pcs[j]? = some pj →
      ∀ a ∈ wblocks isz dsz pi, ∀ b ∈ wblocks isz dsz pj, disjointB a b

/-- Worker `i` goes from `old` to `x`, the stack becomes `st'`.  Enough: the others' blocks still lie in the tail of
`st'`, and a block of `x` is one that `old` held or ends at or below the old `top2`, where no block was. -/
theorem WInv.set {isz dsz : Int} {s : WSys} (inv : WInv isz dsz s) {i : Nat} {old x : WPc}
    (hpc : s.pcs[i]? = some old) {st' : UStack} (htop : st'.top1 ≤ st'.top2 ∧ st'.top2 ≤ st'.size)
    (hused : st'.used = st'.top1 + (st'.size - st'.top2))
    (husers : st'.tailUsers + (if activePc old then 1 else 0) = s.st.tailUsers + (if activePc x then 1 else 0))
    (hkeep : ∀ j pc, j ≠ i → s.pcs[j]? = some pc → ∀ b ∈ wblocks isz dsz pc, st'.top2 ≤ b.1 ∧ b.1 + b.2 ≤ st'.size)
    (hnew : ∀ b ∈ wblocks isz dsz x,
      (st'.top2 ≤ b.1 ∧ b.1 + b.2 ≤ st'.size) ∧ (b ∈ wblocks isz dsz old ∨ b.1 + b.2 ≤ s.st.top2))
    (hown : ∀ oI oD, x = .gotD oI oD → oD + (dsz + 8) ≤ oI) :
    WInv isz dsz ⟨st', s.pcs.set i x⟩ := by
  have hi : i < s.pcs.length := (List.getElem?_eq_some_iff.1 hpc).1
  have hget : ∀ j pc, (s.pcs.set i x)[j]? = some pc → j = i ∧ pc = x ∨ j ≠ i ∧ s.pcs[j]? = some pc := by
    intro j pc hj
    by_cases e : i = j
    · subst e
      rw [List.getElem?_set_self hi] at hj
      exact .inl ⟨rfl, (Option.some.inj hj).symm⟩
    · rw [List.getElem?_set_ne e] at hj
      exact .inr ⟨Ne.symm e, hj⟩
  have hsep : ∀ j pc, j ≠ i → s.pcs[j]? = some pc →
      ∀ a ∈ wblocks isz dsz x, ∀ b ∈ wblocks isz dsz pc, disjointB a b := by
    intro j pc hji hj a ha b hb
    rcases (hnew a ha).2 with h | h
    · exact inv.cross i j old pc (Ne.symm hji) hpc hj a h b hb
    · exact .inl (h.trans (inv.inb j pc hj b hb).1)
  refine { top := htop, used := hused, users := ?_, inb := ?_, own := ?_, cross := ?_ }
  · have hset := cntA_set s.pcs i old x hpc
    rw [← inv.users] at hset
    exact add_right_cancel (husers.trans hset.symm)
  · intro j pc hj b hb
    rcases hget j pc hj with ⟨-, rfl⟩ | ⟨hji, hj⟩
    · exact (hnew b hb).1
    · exact hkeep j pc hji hj b hb
  · intro j oI oD hj
    rcases hget j _ hj with ⟨-, h⟩ | ⟨-, hj⟩
    · exact hown oI oD h.symm
    · exact inv.own j oI oD hj
  · intro j k pj pk hjk hj hk a ha b hb
    rcases hget j pj hj with ⟨rfl, rfl⟩ | ⟨hji, hj'⟩ <;> rcases hget k pk hk with ⟨rfl, rfl⟩ | ⟨hki, hk'⟩
    · exact absurd rfl hjk
    · exact hsep k pk hki hk' a ha b hb
    · exact Or.symm (hsep j pj hji hj' b hb a ha)
    · exact inv.cross j k pj pk hjk hj' hk' a ha b hb

/-- `top2` does not go up: the others' blocks stay where they may be -/
theorem WInv.set_down {isz dsz : Int} {s : WSys} (inv : WInv isz dsz s) {i : Nat} {old x : WPc}
    (hpc : s.pcs[i]? = some old) {st' : UStack} (htop : st'.top1 ≤ st'.top2) (hgeo : st'.top2 ≤ s.st.top2 ∧ st'.size = s.st.size)
    (hused : st'.used = st'.top1 + (st'.size - st'.top2))
    (husers : st'.tailUsers + (if activePc old then 1 else 0) = s.st.tailUsers + (if activePc x then 1 else 0))
    (hnew : ∀ b ∈ wblocks isz dsz x, b ∈ wblocks isz dsz old ∨ st'.top2 ≤ b.1 ∧ b.1 + b.2 ≤ s.st.top2)
    (hown : ∀ oI oD, x = .gotD oI oD → oD + (dsz + 8) ≤ oI) :
    WInv isz dsz ⟨st', s.pcs.set i x⟩ := by
  have hin : ∀ b : Int × Int, s.st.top2 ≤ b.1 ∧ b.1 + b.2 ≤ s.st.size → st'.top2 ≤ b.1 ∧ b.1 + b.2 ≤ st'.size :=
    fun b h => ⟨hgeo.1.trans h.1, h.2.trans_eq hgeo.2.symm⟩
  refine inv.set hpc ⟨htop, (hgeo.1.trans inv.top.2).trans_eq hgeo.2.symm⟩ hused husers ?_ ?_ hown
  · intro j pc _ hj b hb
    exact hin b (inv.inb j pc hj b hb)
  · intro b hb
    rcases hnew b hb with h | h
    · exact ⟨hin b (inv.inb i old hpc b h), .inl h⟩
    · exact ⟨⟨h.1, (h.2.trans inv.top.2).trans_eq hgeo.2.symm⟩, .inr h.2⟩

/-- the new block lies just below the old `top2` -/
theorem WInv.request {isz dsz : Int} {s : WSys} (inv : WInv isz dsz s) {i : Nat} {old x : WPc}
    (hpc : s.pcs[i]? = some old) {st' : UStack} {b off : Int} (hb : 0 ≤ b) (hm : s.st.mallocTail b = (st', some off)) (hact : activePc old = activePc x)
    (hnew : ∀ blk ∈ wblocks isz dsz x, blk ∈ wblocks isz dsz old ∨ blk = (off, b))
    (hown : ∀ oI oD, x = .gotD oI oD → (oI, isz) ∈ wblocks isz dsz old ∧ (oD, dsz + 8) = (off, b)) :
    WInv isz dsz ⟨st', s.pcs.set i x⟩ ∧ st'.top1 = s.st.top1 ∧ st'.size = s.st.size := by
  obtain ⟨e1, e2, e3, e4, e5, e6, e7⟩ := (mallocTail_result s.st b inv.used).1 off st' hm
  obtain ⟨h1, h2, h3⟩ : st'.top1 ≤ st'.top2 ∧ st'.top2 ≤ s.st.top2 ∧ off + b = s.st.top2 := by omega
  refine ⟨inv.set_down hpc h1 ⟨h2, e4⟩ e7 (by rw [hact, e5]) ?_ ?_, e3, e4⟩
  · intro blk hblk
    rcases hnew blk hblk with h | rfl
    · exact .inl h
    · exact .inr ⟨e2.le, h3.le⟩
  · intro oI oD hx
    obtain ⟨hI, hD⟩ := hown oI oD hx
    cases hD
    exact h3.trans_le (inv.inb i old hpc _ hI).1

theorem WInv.refused {isz dsz : Int} {s : WSys} (inv : WInv isz dsz s) {i : Nat} {old : WPc}
    (hpc : s.pcs[i]? = some old) {st' : UStack} {b : Int} (hm : s.st.mallocTail b = (st', none)) (hact : activePc old = true) :
    WInv isz dsz ⟨st', s.pcs.set i .failed⟩ ∧ st'.top1 = s.st.top1 ∧ st'.size = s.st.size := by
  cases (mallocTail_result s.st b inv.used).2 st' hm
  exact ⟨inv.set_down hpc inv.top.1 ⟨le_rfl, rfl⟩ inv.used (by rw [hact]; rfl) (hnew := nofun) (hown := nofun),
    rfl, rfl⟩

theorem activePc_of_wblocks {isz dsz : Int} {pc : WPc} (h : wblocks isz dsz pc ≠ []) : activePc pc = true := by
  cases pc with
  | start | freed => exact absurd rfl h
  | counted | gotI _ | gotD _ _ | failed => rfl

theorem wstep_inv (isz dsz : Int) (hi0 : 0 ≤ isz) (hd0 : 0 ≤ dsz) (s : WSys) (inv : WInv isz dsz s) (i : Nat) :
    WInv isz dsz (wstep isz dsz s i) ∧ (wstep isz dsz s i).st.top1 = s.st.top1 ∧ (wstep isz dsz s i).st.size = s.st.size := by
  unfold wstep
  cases hpc : s.pcs[i]? with
  | none => exact ⟨inv, rfl, rfl⟩
  | some pc =>
    cases pc with
    | start =>
      exact ⟨inv.set_down hpc inv.top.1 ⟨le_rfl, rfl⟩ inv.used (by simp [activePc]) (hnew := nofun)
        (hown := nofun), rfl, rfl⟩
    | counted =>
      cases hm : s.st.mallocTail isz with
      | mk st' r =>
        cases r with
        | none => exact inv.refused hpc hm rfl
        | some off => exact inv.request hpc hi0 hm rfl (fun _ h => .inr (List.mem_singleton.1 h)) nofun
    | gotI offI =>
      cases hm : s.st.mallocTail (dsz + 8) with
      | mk st' r =>
        cases r with
        | none => exact inv.refused hpc hm rfl
        | some off =>
          refine inv.request hpc (by omega) hm rfl ?_ ?_
          · exact fun _ h => (List.mem_cons.1 h).imp List.mem_singleton.2 List.mem_singleton.1
          · rintro oI oD ⟨⟩
            exact ⟨List.mem_singleton.2 rfl, rfl⟩
    | gotD offI offD =>
      have husers : s.st.tailUsers - 1 + (if activePc (.gotD offI offD) then 1 else 0)
          = s.st.tailUsers + (if activePc .freed then 1 else 0) := by simp [activePc]
      simp only
      split
      · next htu =>
        -- the last user: a second worker holding a block would make `tailUsers ≥ 2`
        have hnone : ∀ j pc, j ≠ i → s.pcs[j]? = some pc → wblocks isz dsz pc = [] := by
          intro j pc hji hj
          by_contra hne
          have := two_le_countP hji hj hpc (activePc_of_wblocks hne) rfl
          have := inv.users
          rw [cntA_eq_countP] at this
          omega
        have hused := inv.used
        refine ⟨inv.set hpc ⟨inv.top.1.trans inv.top.2, le_rfl⟩ (by simp only; omega) husers ?_
          (hnew := nofun) (hown := nofun), rfl, rfl⟩
        intro j pc hji hj b hb
        rw [hnone j pc hji hj] at hb
        cases hb
      · exact ⟨inv.set_down hpc inv.top.1 ⟨le_rfl, rfl⟩ inv.used husers (hnew := nofun) (hown := nofun),
          rfl, rfl⟩
    | failed => exact ⟨inv, rfl, rfl⟩
    | freed => exact ⟨inv, rfl, rfl⟩

def wrun (isz dsz : Int) (s : WSys) (evs : List Nat) : WSys := evs.foldl (wstep isz dsz) s

theorem wrun_inv (isz dsz : Int) (hi0 : 0 ≤ isz) (hd0 : 0 ≤ dsz) (evs : List Nat) :
    ∀ s, WInv isz dsz s → WInv isz dsz (wrun isz dsz s evs) ∧ (wrun isz dsz s evs).st.top1 = s.st.top1 ∧
      (wrun isz dsz s evs).st.size = s.st.size := by
  induction evs with
  | nil => intro s inv; exact ⟨inv, rfl, rfl⟩
  | cons e es ih =>
    intro s inv
    obtain ⟨a, b, c⟩ := wstep_inv isz dsz hi0 hd0 s inv e
    obtain ⟨a', b', c'⟩ := ih _ a
    exact ⟨a', b'.trans b, c'.trans c⟩

/-- the head (L/U arrays) occupies `[0, top1)`, nobody holds tail space -/
def wstart (st : UStack) (P : Nat) : WSys := { st := st, pcs := List.replicate P .start }

theorem wstart_inv (isz dsz : Int) (st : UStack) (P : Nat) (h1 : st.top1 ≤ st.top2) (h2 : st.top2 ≤ st.size)
    (h3 : st.used = st.top1 + (st.size - st.top2)) (h4 : st.tailUsers = 0) : WInv isz dsz (wstart st P) := by
  have hrep : ∀ (i : Nat) pc, (List.replicate P WPc.start)[i]? = some pc → pc = .start :=
    fun i pc h => List.eq_of_mem_replicate (List.mem_of_getElem? h)
  refine { top := ⟨h1, h2⟩, used := h3, users := ?_, inb := ?_, own := ?_, cross := ?_ }
  · show st.tailUsers = cntA (List.replicate P .start)
    rw [h4, cntA_eq_countP, List.countP_replicate]
    rfl
  · intro i pc h b hb
    cases hrep i pc h
    cases hb
  · intro i oI oD h
    cases hrep i _ h
  · intro i j pi pj _ hi _ a ha
    cases hrep i pi hi
    cases ha

/-- Workers never share workspace: from any state with the L/U arrays in `[0, top1)`, for every number of workers,
every interleaving of their critical sections (failed requests, workers that never free) and all request sizes, every
block held lies in the buffer above the L/U arrays and any two blocks are disjoint. -/
theorem workers_blocks_safe (isz dsz : Int) (hi0 : 0 ≤ isz) (hd0 : 0 ≤ dsz) (st : UStack) (P : Nat)
    (h1 : st.top1 ≤ st.top2) (h2 : st.top2 ≤ st.size) (h3 : st.used = st.top1 + (st.size - st.top2)) (h4 : st.tailUsers = 0)
    (evs : List Nat) :
    let s := wrun isz dsz (wstart st P) evs
    (∀ (i : Nat) pc, s.pcs[i]? = some pc → ∀ b ∈ wblocks isz dsz pc, st.top1 ≤ b.1 ∧ b.1 + b.2 ≤ st.size) ∧
    (∀ (i : Nat) offI offD, s.pcs[i]? = some (.gotD offI offD) → disjointB (offD, dsz + 8) (offI, isz)) ∧
    (∀ (i j : Nat) pi pj, i ≠ j → s.pcs[i]? = some pi → s.pcs[j]? = some pj →
        ∀ a ∈ wblocks isz dsz pi, ∀ b ∈ wblocks isz dsz pj, disjointB a b) := by
  obtain ⟨inv, e1, e2⟩ := wrun_inv isz dsz hi0 hd0 evs (wstart st P) (wstart_inv isz dsz st P h1 h2 h3 h4)
  refine ⟨?_, ?_, inv.cross⟩
  · intro i pc h b hb
    have hb' := inv.inb i pc h b hb
    exact ⟨e1.symm.trans_le (inv.top.1.trans hb'.1), hb'.2.trans_eq e2⟩
  · exact fun i oI oD h => .inl (inv.own i oI oD h)

def wrunOrig (isz dsz : Int) (s : WSys) (evs : List Nat) : WSys := evs.foldl (wstepOrigFree isz dsz) s

def overlapB (a b : Int × Int) : Bool := decide (a.1 < b.1 + b.2) && decide (b.1 < a.1 + a.2)

/-- original `p?gstrf_WorkFree` (a leaving worker releases the whole tail): workers 0 and 1 take their space, 1 leaves,
2 starts and is handed the integer work array `(992, 8)` of the running worker 0 -/
theorem orig_free_overlap :
    let s := wrunOrig 8 8 (wstart (UStack.setup 1000) 3) [0, 0, 0, 1, 1, 1, 1, 2, 2]
    s.pcs[0]? = some (.gotD 992 976) ∧ s.pcs[2]? = some (.gotI 992) ∧ overlapB (992, 8) (992, 8) = true := by decide

/-- the repaired protocol, same history -/
example :
    let s := wrun 8 8 (wstart (UStack.setup 1000) 3) [0, 0, 0, 1, 1, 1, 1, 2, 2]
    s.pcs[0]? = some (.gotD 992 976) ∧ s.pcs[2]? = some (.gotI 944) := by decide

/-- original alignment: an unaligned block's array is moved down, below its own block -/
theorem orig_align_steals (base8 off : Int) (h : (base8 + off) % 8 ≠ 0) :
    alignOrigDown base8 off < off ∧ off - alignOrigDown base8 off ≤ 7 := by
  unfold alignOrigDown alignUp
  -- with `A = base8 + off`: `(A + 7) % 8 = A % 8 - 1 ≤ 6`, and the array starts `1 + (A + 7) % 8` bytes below `off`
  constructor <;> omega

/-- … so a request served in between overlaps it: A gets `[940, 1000)` (address ≡ 4 mod 8), B `[740, 940)`; A moves its
array to 936, into B's last 4 bytes -/
theorem orig_align_overlap :
    let s0 := UStack.setup 1000
    let (s1, a) := s0.mallocTail 60
    let (_, b) := s1.mallocTail 200
    a = some 940 ∧ b = some 740 ∧ alignOrigDown 0 940 = 936 ∧ overlapB (936, 60) (740, 200) = true := by decide

end Slu
