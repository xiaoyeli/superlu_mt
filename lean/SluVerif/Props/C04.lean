/-
C04 — scheduler bookkeeping: one critical section of pxgstrf_scheduler (Model/Sched.lean `schedule`), for every shared
state with a consistent queue cursor.  The `*_spec` theorems are the property-level readings; the system-level proofs
rest on `schedule_cases` (and `takePanel_spec`).
-/
import SluVerif.Model.SchedSys
import SluVerif.Proofs.SchedArray
import Mathlib.Tactic.Linarith

namespace Slu
open Slu.Gen

/-- the C code compares panel states by value; `have := state_order` feeds `omega` -/
theorem state_order : DONE = 0 ∧ BUSY = 1 ∧ CANGO = 2 ∧ CANPIPE = 3 ∧ UNREADY = 4 := ⟨rfl, rfl, rfl, rfl, rfl⟩

def QueueOk (sh : Sh) : Prop := sh.head ≤ sh.tail ∧ sh.count = ((sh.tail : Int) - (sh.head : Int))

def SameButCursor (a b : Sh) : Prop :=
  b.tail = a.tail ∧ b.state = a.state ∧ b.ukids = a.ukids ∧ b.tasksRemain = a.tasksRemain ∧ b.queue = a.queue ∧
  b.fb = a.fb ∧ b.spin = a.spin ∧ b.size = a.size ∧ b.typ = a.typ

/-- the pending entries before `k` are stale (taken directly, as parent of a reported panel) -/
def staleUpTo (sh : Sh) (k : Nat) : Prop := ∀ k', sh.head ≤ k' → k' < k → getN sh.state (getN sh.queue k') < CANGO

/-- empty-handed (over stale entries only, if the fuel sufficed) or right behind the first live entry -/
theorem dequeue_cases (fuel : Nat) (sh : Sh) (hq : QueueOk sh) :
    SameButCursor sh (dequeue sh fuel).1 ∧ QueueOk (dequeue sh fuel).1 ∧ sh.head ≤ (dequeue sh fuel).1.head ∧
    (((dequeue sh fuel).2 = none ∧ (sh.tail - sh.head ≤ fuel → staleUpTo sh sh.tail)) ∨
     ∃ k, sh.head ≤ k ∧ k < sh.tail ∧ (dequeue sh fuel).2 = some (getN sh.queue k) ∧ getN sh.state (getN sh.queue k) ≥ CANGO ∧
        (dequeue sh fuel).1.head = k + 1 ∧ staleUpTo sh k) := by
  have same (x : Sh) : SameButCursor x x := ⟨rfl, rfl, rfl, rfl, rfl, rfl, rfl, rfl, rfl⟩
  induction fuel generalizing sh with
  | zero => exact ⟨same sh, hq, le_refl _, Or.inl ⟨rfl, fun hf k h1 h2 =>
      absurd (Nat.lt_of_le_of_lt h1 h2) (Nat.not_lt.2 (Nat.le_of_sub_eq_zero (Nat.le_zero.1 hf)))⟩⟩
  | succ fuel ih =>
    unfold dequeue
    obtain ⟨q1, q2⟩ := hq
    by_cases hc : sh.count ≤ 0
    · rw [if_pos hc]
      exact ⟨same sh, ⟨q1, q2⟩, le_refl _, Or.inl ⟨rfl, fun _ k h1 h2 => by omega⟩⟩
    · rw [if_neg hc]
      have hlt : sh.head < sh.tail := by omega
      have hq' : QueueOk { sh with head := sh.head + 1, count := sh.count - 1 } := by
        refine ⟨hlt, ?_⟩
        show sh.count - 1 = (sh.tail : Int) - ((sh.head + 1 : Nat) : Int)
        omega
      by_cases hs : getN sh.state (getN sh.queue sh.head) ≥ CANGO
      · rw [if_pos hs]
        exact ⟨same sh, hq', Nat.le_succ _, Or.inr ⟨sh.head, le_refl _, hlt, rfl, hs, rfl,
          fun k' h1 h2 => absurd (Nat.lt_of_le_of_lt h1 h2) (Nat.lt_irrefl _)⟩⟩
      · rw [if_neg hs]
        obtain ⟨a1, a2, a3, a4⟩ := ih { sh with head := sh.head + 1, count := sh.count - 1 } hq'
        have hstale : ∀ k, staleUpTo { sh with head := sh.head + 1, count := sh.count - 1 } k → staleUpTo sh k := by
          intro k hk k' h1 h2
          by_cases e : k' = sh.head
          · rw [e]; exact not_le.1 hs
          · exact hk k' (Nat.succ_le_of_lt (Nat.lt_of_le_of_ne h1 (Ne.symm e))) h2
        refine ⟨a1, a2, Nat.le_of_succ_le a3, a4.imp ?_ ?_⟩
        · rintro ⟨g, hall⟩
          refine ⟨g, fun hf => hstale _ (hall ?_)⟩
          rw [Nat.sub_add_eq]
          exact Nat.sub_le_of_le_add hf
        · rintro ⟨k, k1, k2, k3, k4, k5, k6⟩
          exact ⟨k, Nat.le_of_succ_le k1, k2, k3, k4, k5, hstale k k6⟩

theorem dequeue_spec (fuel : Nat) (sh : Sh) (hq : QueueOk sh) (sh' : Sh) (got : Option Nat)
    (hr : dequeue sh fuel = (sh', got)) :
    QueueOk sh' ∧ sh.head ≤ sh'.head ∧ SameButCursor sh sh' ∧
    (∀ j, got = some j → getN sh.state j ≥ CANGO ∧ ∃ k, sh.head ≤ k ∧ k < sh.tail ∧ getN sh.queue k = j ∧ sh'.head = k + 1 ∧
        ∀ k', sh.head ≤ k' → k' < k → getN sh.state (getN sh.queue k') < CANGO) := by
  obtain ⟨a1, a2, a3, a4⟩ := dequeue_cases fuel sh hq
  rw [hr] at a1 a2 a3 a4
  refine ⟨a2, a3, a1, ?_⟩
  rintro j rfl
  rcases a4 with ⟨g, _⟩ | ⟨k, k1, k2, k3, k4, k5, k6⟩
  · cases g
  · cases k3
    exact ⟨k4, k, k1, k2, rfl, k5, k6⟩

theorem dadPanel_congr (c : PanelCfg) (x y : Sh) (h : x.size = y.size) (j : Nat) : dadPanel c x j = dadPanel c y j := by
  unfold dadPanel; rw [h]

/-- `if (dad < n && pan_status[dad].ukids == 1)`: the parent becomes CANPIPE and is enqueued -/
def pipeCond (c : PanelCfg) (sh1 : Sh) (j : Nat) : Bool :=
  decide (dadPanel c sh1 j < c.n) && (getZ sh1.ukids (dadPanel c sh1 j) == 1)

theorem takePanel_state (c : PanelCfg) (sh1 : Sh) (j : Nat) :
    (takePanel c sh1 j).1.state = if pipeCond c sh1 j then (sh1.state.setIfInBounds j BUSY).setIfInBounds (dadPanel c sh1 j) CANPIPE
                                  else sh1.state.setIfInBounds j BUSY := rfl
theorem getN_takePanel_state (c : PanelCfg) (sh1 : Sh) (j p : Nat) (hj : j < sh1.state.size)
    (hd : dadPanel c sh1 j < sh1.state.size) (hne : j ≠ dadPanel c sh1 j) :
    getN (takePanel c sh1 j).1.state p =
      if p = j then BUSY else if p = dadPanel c sh1 j ∧ pipeCond c sh1 j = true then CANPIPE else getN sh1.state p := by
  rw [takePanel_state]
  by_cases e1 : p = j
  · rw [if_pos e1, e1]; split
    · rw [getN_set_ne hne, getN_set _ _ _ _ hj, if_pos rfl]
    · rw [getN_set _ _ _ _ hj, if_pos rfl]
  · rw [if_neg e1]
    by_cases hpipe : pipeCond c sh1 j = true
    · rw [if_pos hpipe, getN_set _ _ _ _ (by rw [Array.size_setIfInBounds]; exact hd), getN_set_ne e1]
      simp only [hpipe, and_true]
    · rw [if_neg hpipe, getN_set_ne e1, if_neg (fun h => hpipe h.2)]

theorem takePanel_tail (c : PanelCfg) (sh1 : Sh) (j : Nat) :
    (takePanel c sh1 j).1.tail = if pipeCond c sh1 j then sh1.tail + 1 else sh1.tail := rfl
theorem takePanel_count (c : PanelCfg) (sh1 : Sh) (j : Nat) :
    (takePanel c sh1 j).1.count = if pipeCond c sh1 j then sh1.count + 1 else sh1.count := rfl
theorem takePanel_queue (c : PanelCfg) (sh1 : Sh) (j : Nat) :
    (takePanel c sh1 j).1.queue = if pipeCond c sh1 j then sh1.queue.setIfInBounds sh1.tail (dadPanel c sh1 j) else sh1.queue := rfl
theorem takePanel_head (c : PanelCfg) (sh1 : Sh) (j : Nat) : (takePanel c sh1 j).1.head = sh1.head := rfl
theorem takePanel_tasks (c : PanelCfg) (sh1 : Sh) (j : Nat) : (takePanel c sh1 j).1.tasksRemain = sh1.tasksRemain - 1 := rfl
theorem takePanel_size (c : PanelCfg) (sh1 : Sh) (j : Nat) : (takePanel c sh1 j).1.size = sh1.size := rfl
theorem takePanel_ukids (c : PanelCfg) (sh1 : Sh) (j : Nat) : (takePanel c sh1 j).1.ukids = sh1.ukids := rfl

theorem takePanel_typ (c : PanelCfg) (sh1 : Sh) (j : Nat) : (takePanel c sh1 j).1.typ = sh1.typ := rfl
theorem takePanel_spin (c : PanelCfg) (sh1 : Sh) (j : Nat) :
    (takePanel c sh1 j).1.spin = fillN sh1.spin j (getZ sh1.size j).toNat 1 := rfl

theorem climbDone_congr (c : PanelCfg) (x y : Sh) (h1 : x.state = y.state) (h2 : x.size = y.size) (fuel b : Nat) :
    climbDone c x fuel b = climbDone c y fuel b := by
  induction fuel generalizing b with
  | zero => rfl
  | succ f ih =>
    unfold climbDone
    rw [h1, dadPanel_congr c x y h2 b, ih]

/-- `bcol` and the `fb_cols` update in terms of the final state -/
theorem takePanel_fb (c : PanelCfg) (sh1 : Sh) (j : Nat) :
    (takePanel c sh1 j).2 = climbDone c (takePanel c sh1 j).1 (c.n + 1) (getN sh1.fb j) ∧
    (takePanel c sh1 j).1.fb = sh1.fb.setIfInBounds (dadPanel c sh1 j) (takePanel c sh1 j).2 := by
  constructor
  · unfold takePanel
    apply climbDone_congr <;> rfl
  · unfold takePanel
    rfl

theorem finishPanel_state (sh : Sh) (p : Nat) : (finishPanel sh p).state = sh.state.setIfInBounds p DONE := rfl
theorem finishPanel_spin (sh : Sh) (j : Nat) : (finishPanel sh j).spin = fillN sh.spin j (getZ sh.size j).toNat 0 := rfl
theorem finishPanel_ukids (sh : Sh) (p : Nat) : (finishPanel sh p).ukids = sh.ukids := rfl
theorem finishPanel_size (sh : Sh) (p : Nat) : (finishPanel sh p).size = sh.size := rfl
theorem finishPanel_tasks (sh : Sh) (p : Nat) : (finishPanel sh p).tasksRemain = sh.tasksRemain := rfl
theorem finishPanel_typ (sh : Sh) (p : Nat) : (finishPanel sh p).typ = sh.typ := rfl
theorem finishPanel_fb (sh : Sh) (p : Nat) : (finishPanel sh p).fb = sh.fb := rfl
theorem finishPanel_queue (sh : Sh) (p : Nat) :
    (finishPanel sh p).queue = sh.queue ∧ (finishPanel sh p).head = sh.head ∧ (finishPanel sh p).tail = sh.tail ∧
    (finishPanel sh p).count = sh.count := ⟨rfl, rfl, rfl, rfl⟩

/-- `sh` after `--pan_status[dad].ukids` for the finished panel `cur` -/
def reported (c : PanelCfg) (sh : Sh) (cur : Option Nat) : Sh :=
  { sh with ukids := match cur with
      | some q => sh.ukids.setIfInBounds (dadPanel c sh q) (getZ sh.ukids (dadPanel c sh q) - 1)
      | none => sh.ukids }

/-- the report brings the untaken parent's counter to 0: the parent is taken directly -/
def takesDad (c : PanelCfg) (sh : Sh) (cur : Option Nat) : Prop :=
  ∃ q, cur = some q ∧ getZ sh.ukids (dadPanel c sh q) - 1 = 0 ∧ getN sh.state (dadPanel c sh q) > BUSY

open Classical in
theorem pickPanel_eq (c : PanelCfg) (sh : Sh) (cur : Option Nat) :
    pickPanel c sh cur = if takesDad c sh cur then (reported c sh cur, cur.map (dadPanel c sh))
                         else dequeue (reported c sh cur) (c.n + 1) := by
  cases cur with
  | none =>
    rw [if_neg (by rintro ⟨q, h, _⟩; cases h)]
    rfl
  | some q =>
    have hc : ((getZ sh.ukids (dadPanel c sh q) - 1 == 0 && decide (getN sh.state (dadPanel c sh q) > BUSY)) = true) ↔
        takesDad c sh (some q) := by
      simp only [Bool.and_eq_true, beq_iff_eq, decide_eq_true_eq]
      exact ⟨fun h => ⟨q, rfl, h⟩, fun ⟨_, e, h⟩ => by cases e; exact h⟩
    unfold pickPanel
    by_cases h : takesDad c sh (some q)
    · rw [if_pos h]; exact if_pos (hc.2 h)
    · rw [if_neg h]; exact if_neg (fun h' => h (hc.1 h'))

/-- reporting and picking touch only `ukids` and the queue head; what is picked was untaken. -/
theorem pickPanel_spec (c : PanelCfg) (sh : Sh) (cur : Option Nat) (hq : QueueOk sh)
    (sh1 : Sh) (got : Option Nat) (hr : pickPanel c sh cur = (sh1, got)) :
    QueueOk sh1 ∧ sh.head ≤ sh1.head ∧ sh1.tail = sh.tail ∧ sh1.state = sh.state ∧ sh1.tasksRemain = sh.tasksRemain ∧
    sh1.queue = sh.queue ∧ sh1.size = sh.size ∧ sh1.spin = sh.spin ∧
    (∀ j, got = some j → getN sh.state j > BUSY) := by
  have hpk := pickPanel_eq c sh cur
  rw [hr] at hpk
  by_cases hd : takesDad c sh cur
  · rw [if_pos hd] at hpk
    obtain ⟨q, rfl, _, h2⟩ := hd
    cases hpk
    exact ⟨hq, le_refl _, rfl, rfl, rfl, rfl, rfl, rfl, by rintro j ⟨⟩; exact h2⟩
  · rw [if_neg hd] at hpk
    -- `reported c sh cur` is `sh` but for `ukids`: `hq` and the equations that come back are about `sh` by unfolding
    obtain ⟨⟨e_tail, e_state, _, e_tasks, e_queue, _, e_spin, e_size, _⟩, a1, a2, a4⟩ :=
      dequeue_cases (c.n + 1) (reported c sh cur) hq
    rw [← hpk] at e_tail e_state e_tasks e_queue e_spin e_size a1 a2 a4
    refine ⟨a1, a2, e_tail, e_state, e_tasks, e_queue, e_size, e_spin, ?_⟩
    rintro j rfl
    rcases a4 with ⟨g, _⟩ | ⟨k, _, _, k3, k4, _⟩
    · cases g
    · cases k3
      have k4 : getN sh.state (getN sh.queue k) ≥ CANGO := k4
      show getN sh.state (getN sh.queue k) > BUSY
      have := state_order
      omega

/-- `j` becomes BUSY, `tasks_remain` drops by one, at most the parent becomes CANPIPE and is
enqueued. -/
theorem takePanel_spec (c : PanelCfg) (sh1 : Sh) (j : Nat) (hq : QueueOk sh1)
    (hj : j < sh1.state.size) (hdad : dadPanel c sh1 j ≠ j) (hdsz : dadPanel c sh1 j < sh1.state.size) :
    QueueOk (takePanel c sh1 j).1 ∧ (takePanel c sh1 j).1.head = sh1.head ∧ sh1.tail ≤ (takePanel c sh1 j).1.tail ∧
    (takePanel c sh1 j).1.tail ≤ sh1.tail + 1 ∧
    (takePanel c sh1 j).1.tasksRemain = sh1.tasksRemain - 1 ∧ getN (takePanel c sh1 j).1.state j = BUSY ∧
    (takePanel c sh1 j).1.size = sh1.size ∧ (takePanel c sh1 j).1.ukids = sh1.ukids ∧
    (∀ p, p ≠ j → p ≠ dadPanel c sh1 j → getN (takePanel c sh1 j).1.state p = getN sh1.state p) ∧
    (getN (takePanel c sh1 j).1.state (dadPanel c sh1 j) = getN sh1.state (dadPanel c sh1 j) ∨
      getN (takePanel c sh1 j).1.state (dadPanel c sh1 j) = CANPIPE) := by
  obtain ⟨h1, h2⟩ := hq
  have hget := fun p => getN_takePanel_state c sh1 j p hj hdsz hdad.symm
  refine ⟨⟨?_, ?_⟩, takePanel_head c sh1 j, ?_, ?_, takePanel_tasks c sh1 j, ?_, takePanel_size c sh1 j,
    takePanel_ukids c sh1 j, ?_, ?_⟩
  · rw [takePanel_head, takePanel_tail]; split <;> omega
  · rw [takePanel_head, takePanel_tail, takePanel_count]; split
    · omega
    · exact h2
  · rw [takePanel_tail]; split <;> omega
  · rw [takePanel_tail]; split <;> omega
  · rw [hget, if_pos rfl]
  · intro p hp1 hp2
    rw [hget, if_neg hp1, if_neg (fun h => hp2 h.1)]
  · rw [hget, if_neg hdad]; split
    · exact Or.inr rfl
    · exact Or.inl rfl

/-- the whole critical section, in states where `hsz` and `hdad` hold: a panel is handed out only if untaken and is
BUSY afterwards; `tasks_remain` drops by one exactly then; besides it only its parent's state may change (to CANPIPE); head
and tail only grow, tail by at most one.  `hdad` is asked of every index: at an interior column of a panel
`dadPanel c sh j = j`, so it holds only where every panel has one column (`schedule_frame` asks it of panel leaders). -/
theorem schedule_spec (c : PanelCfg) (sh : Sh) (cur : Option Nat) (b0 : Nat) (hq : QueueOk sh)
    (hsz : ∀ j, getN sh.state j > BUSY → j < sh.state.size)
    (hdad : ∀ j, dadPanel c sh j ≠ j ∧ dadPanel c sh j < sh.state.size) :
    QueueOk (schedule c sh cur b0).1 ∧ sh.head ≤ (schedule c sh cur b0).1.head ∧
    sh.tail ≤ (schedule c sh cur b0).1.tail ∧ (schedule c sh cur b0).1.tail ≤ sh.tail + 1 ∧
    ((schedule c sh cur b0).2.1 = none →
        (schedule c sh cur b0).1.tasksRemain = sh.tasksRemain ∧ (schedule c sh cur b0).1.state = sh.state) ∧
    (∀ j, (schedule c sh cur b0).2.1 = some j →
        getN sh.state j > BUSY ∧ getN (schedule c sh cur b0).1.state j = BUSY ∧
        (schedule c sh cur b0).1.tasksRemain = sh.tasksRemain - 1 ∧
        (∀ p, p ≠ j → p ≠ dadPanel c sh j → getN (schedule c sh cur b0).1.state p = getN sh.state p) ∧
        (getN (schedule c sh cur b0).1.state (dadPanel c sh j) = getN sh.state (dadPanel c sh j) ∨
         getN (schedule c sh cur b0).1.state (dadPanel c sh j) = CANPIPE)) := by
  unfold schedule
  cases hp : pickPanel c sh cur with
  | mk sh1 got =>
    obtain ⟨hq1, hhead, e_tail, e_state, e_tasks, _, e_size, _, hpick⟩ := pickPanel_spec c sh cur hq sh1 got hp
    cases got with
    | none =>
      simp only
      exact ⟨hq1, hhead, e_tail.ge, by omega, ⟨fun _ => ⟨e_tasks, e_state⟩, fun j h => by cases h⟩⟩
    | some j =>
      simp only
      have hunt := hpick j rfl
      have hd1 : dadPanel c sh1 j = dadPanel c sh j := dadPanel_congr c sh1 sh e_size j
      have hj : j < sh1.state.size := by rw [e_state]; exact hsz j hunt
      obtain ⟨hq2, e_head2, htail_ge, htail_le, e_tasks2, hbusy, _, _, hother, hdadst⟩ :=
        takePanel_spec c sh1 j hq1 hj (by rw [hd1]; exact (hdad j).1) (by rw [hd1, e_state]; exact (hdad j).2)
      refine ⟨hq2, by omega, by omega, by omega, ?_, ?_⟩
      · intro h; cases h
      · rintro j' ⟨⟩
        refine ⟨hunt, hbusy, by rw [e_tasks2, e_tasks], ?_, ?_⟩
        · intro p h1 h2
          rw [hother p h1 (by rw [hd1]; exact h2), e_state]
        · rw [hd1, e_state] at hdadst; exact hdadst

/-- nothing handed out (all pending entries stale, if the fuel
sufficed), the reported panel's parent taken directly, or the first live queue entry taken; `sh1` is the state between
the two halves. -/
theorem schedule_cases (c : PanelCfg) (sh : Sh) (cur : Option Nat) (b0 : Nat) (hq : QueueOk sh) :
    ∃ sh1, (sh1.tail = sh.tail ∧ sh1.state = sh.state ∧ sh1.ukids = (reported c sh cur).ukids ∧ sh1.tasksRemain = sh.tasksRemain ∧
        sh1.queue = sh.queue ∧ sh1.fb = sh.fb ∧ sh1.spin = sh.spin ∧ sh1.size = sh.size ∧ sh1.typ = sh.typ) ∧
      QueueOk sh1 ∧ sh.head ≤ sh1.head ∧
      ((¬ takesDad c sh cur ∧ schedule c sh cur b0 = (sh1, none, b0) ∧ (sh.tail - sh.head ≤ c.n + 1 → staleUpTo sh sh.tail)) ∨
       (∃ q, cur = some q ∧ getZ sh.ukids (dadPanel c sh q) - 1 = 0 ∧ getN sh.state (dadPanel c sh q) > BUSY ∧ sh1.head = sh.head ∧
          schedule c sh cur b0 = ((takePanel c sh1 (dadPanel c sh q)).1, some (dadPanel c sh q), (takePanel c sh1 (dadPanel c sh q)).2)) ∨
       (∃ j k, ¬ takesDad c sh cur ∧ sh.head ≤ k ∧ k < sh.tail ∧ getN sh.queue k = j ∧ getN sh.state j ≥ CANGO ∧ sh1.head = k + 1 ∧
          staleUpTo sh k ∧ schedule c sh cur b0 = ((takePanel c sh1 j).1, some j, (takePanel c sh1 j).2))) := by
  have hnone : ∀ x : Sh × Option Nat, pickPanel c sh cur = x → x.2 = none → schedule c sh cur b0 = (x.1, none, b0) := by
    rintro ⟨sh1, got⟩ h rfl
    unfold schedule
    rw [h]
  have hsome : ∀ (x : Sh × Option Nat) (j : Nat), pickPanel c sh cur = x → x.2 = some j →
      schedule c sh cur b0 = ((takePanel c x.1 j).1, some j, (takePanel c x.1 j).2) := by
    rintro ⟨sh1, got⟩ j h rfl
    unfold schedule
    rw [h]
  have hpk := pickPanel_eq c sh cur
  by_cases hd : takesDad c sh cur
  · rw [if_pos hd] at hpk
    obtain ⟨q, rfl, h1, h2⟩ := hd
    exact ⟨reported c sh (some q), ⟨rfl, rfl, rfl, rfl, rfl, rfl, rfl, rfl, rfl⟩, hq, le_refl _,
      Or.inr (Or.inl ⟨q, rfl, h1, h2, rfl,
      hsome (reported c sh (some q), some (dadPanel c sh q)) (dadPanel c sh q) hpk rfl⟩)⟩
  · rw [if_neg hd] at hpk
    obtain ⟨d1, d2, d3, d4⟩ := dequeue_cases (c.n + 1) (reported c sh cur) hq
    refine ⟨(dequeue (reported c sh cur) (c.n + 1)).1, d1, d2, d3, ?_⟩
    rcases d4 with ⟨g, hall⟩ | ⟨k, k1, k2, g, k3, k4, k5⟩
    · exact Or.inl ⟨hd, hnone _ hpk g, hall⟩
    · exact Or.inr (Or.inr ⟨getN sh.queue k, k, hd, k1, k2, rfl, k3, k4, k5, hsome _ (getN sh.queue k) hpk g⟩)

/-- two leaves under a root -/
def exCfg : PanelCfg := { n := 3, etree := #[2, 2, 3], panelSize := 1, relax := 1 }

example : (parallelInit exCfg).tasksRemain = 3 ∧ (parallelInit exCfg).tail = 2 ∧ (parallelInit exCfg).head = 0 ∧ (parallelInit exCfg).count = 2 := by decide +kernel
example : (schedule exCfg (parallelInit exCfg) none 0).2.1 = some 0 := by decide +kernel
example : (schedule exCfg (parallelInit exCfg) none 0).1.tasksRemain = 2 := by decide +kernel

end Slu
