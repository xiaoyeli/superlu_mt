/-
C03 — the pipeline structure of the scheduler, for every configuration passing the three initial-state checks, every
number of workers and every interleaving.  Not covered: that the numerical kernels read descendant columns only after
waiting for them (`panel_bmod`'s per-column spin); in this model a panel reads its descendants between hand-out and
completion, and the per-column order is checked on real runs by the hook event log (vlib/evmon.py).
-/
import SluVerif.Proofs.SchedPipe
import SluVerif.Proofs.SchedProgInit
import SluVerif.Model.SchedInit3

namespace Slu
open Slu.Gen
open Classical

theorem pipeStatic_of_initOk3 (c : PanelCfg) (sh : Sh) (h : initOk3 c sh = true) : PipeStatic (cfgOf c sh) sh.typ := by
  unfold initOk3 at h
  simp only [Bool.and_eq_true, List.all_eq_true, List.mem_range, decide_eq_true_eq, Bool.or_eq_true, bne_iff_ne] at h
  obtain ⟨h1, h2⟩ := h
  refine ⟨⟨fun k hk => h1 k hk⟩, ?_⟩
  intro p hp ht q hq
  rcases h2 p hp with h' | h'
  · exact absurd ht h'
  · exact h' q hq

theorem pipeInv_init (c : PanelCfg) (sh : Sh) (nw : Nat) (h1 : initOk c sh = true) :
    PipeInv (cfgOf c sh) (colOf sh) sh.typ (sysOf sh nw) := by
  obtain ⟨_, inv, hunt⟩ := init1 c sh nw h1
  have hord := state_order
  -- nothing has been handed out: no panel is BUSY or DONE, nobody works, and a runnable panel has no child panel
  refine {
    typ_eq := rfl, spin_full := fun p hp hb => ?spin_full, done_closed := fun p hp hd => ?done_closed,
    busy_path := fun i p b hp => absurd hp (wk_sysOf_notworking sh nw i p b), pipe_path := ?pipe_path }
  case spin_full =>
    have := hunt p hp
    have hb' : getN sh.state p = BUSY := hb
    omega
  case done_closed =>
    have := hunt p hp
    have hd' : getN sh.state p = DONE := hd
    omega
  case pipe_path =>
    intro p hp _ hne q hq hqp
    obtain ⟨ch, c1, c2, _, _⟩ := desc_child (cfgOf c sh) hq hqp
    have := hunt ch c1
    have hc : getN sh.state ch ≤ BUSY := inv.closed p hp hne ch c1 c2
    omega

theorem pipeInv_step (K : Cfg) (W : CfgWF K) (Q : ColCfg) (C : ColWF K Q) (T : Array Nat) (PS : PipeStatic K T)
    (s : Sys) (inv : SysInv K s) (pinv : ProgInv K Q s) (pv : PipeInv K Q T s) (e : Ev) : PipeInv K Q T (step K.c s e) :=
  step_cases K.c s e pv (pipeInv_loop K Q T s pv) (fun w h => (pipeInv_sched K W Q C T s inv pinv pv w h).1)
    (pipeInv_finish K W Q C T PS s inv pinv pv)

theorem pipeInv_run (K : Cfg) (W : CfgWF K) (Q : ColCfg) (C : ColWF K Q) (T : Array Nat) (PS : PipeStatic K T) (evs : List Ev) :
    ∀ s, SysInv K s → ProgInv K Q s → PipeInv K Q T s →
      SysInv K (runEv K.c s evs) ∧ ProgInv K Q (runEv K.c s evs) ∧ PipeInv K Q T (runEv K.c s evs) :=
  fun _ a b c => List.foldlRecOn (motive := fun s => SysInv K s ∧ ProgInv K Q s ∧ PipeInv K Q T s) evs (step K.c)
    ⟨a, b, c⟩ fun s h e _ => ⟨sysInv_step K W s h.1 e, progInv_step K W Q C s h.1 h.2.1 e,
      pipeInv_step K W Q C T PS s h.1 h.2.1 h.2.2 e⟩

theorem global_all_invariants (c : PanelCfg) (sh : Sh) (nw : Nat) (h1 : initOk c sh = true) (h2 : initOk2 c sh = true)
    (h3 : initOk3 c sh = true) (evs : List Ev) :
    let s := runEv c (sysOf sh nw) evs
    SysInv (cfgOf c sh) s ∧ ProgInv (cfgOf c sh) (colOf sh) s ∧ PipeInv (cfgOf c sh) (colOf sh) sh.typ s := by
  have W := cfgWF_of_initOk c sh h1
  obtain ⟨C, P0⟩ := init2 c sh nw h2
  exact pipeInv_run (cfgOf c sh) W (colOf sh) C sh.typ (pipeStatic_of_initOk3 c sh h3) evs (sysOf sh nw)
    (sysInv_of_initOk c sh nw h1) P0 (pipeInv_init c sh nw h1)

/-- at most one chain of busy descendants, the one the thread is sent to wait for: when a panel is handed out with
`bcol = b`, every unfinished proper descendant panel is BUSY and lies on the panel path from `b` to the panel. -/
theorem global_handout_chain (c : PanelCfg) (sh : Sh) (nw : Nat) (h1 : initOk c sh = true) (h2 : initOk2 c sh = true)
    (h3 : initOk3 c sh = true) (evs : List Ev) (w j : Nat) :
    let s := runEv c (sysOf sh nw) evs
    enabled c s (.sched w) = true → (schedule c s.sh (wk s w).cur 0).2.1 = some j →
    ∀ q, Desc (cfgOf c sh) q j → q ≠ j → getN (step c s (.sched w)).sh.state q ≠ DONE →
      getN (step c s (.sched w)).sh.state q = BUSY ∧
      Desc (cfgOf c sh) (schedule c s.sh (wk s w).cur 0).2.2 q := by
  intro s he hj q hq hne hnd
  have W := cfgWF_of_initOk c sh h1
  obtain ⟨C, _⟩ := init2 c sh nw h2
  obtain ⟨a, b, pv⟩ := global_all_invariants c sh nw h1 h2 h3 evs
  obtain ⟨_, hh⟩ := pipeInv_sched (cfgOf c sh) W (colOf sh) C sh.typ s a b pv w he
  exact hh j hj q hq hne hnd

/-- a panel is completed only over finished descendants: the wait chain covers everything unfinished below it. -/
theorem global_finish_descendants_done (c : PanelCfg) (sh : Sh) (nw : Nat) (h1 : initOk c sh = true) (h2 : initOk2 c sh = true)
    (h3 : initOk3 c sh = true) (evs : List Ev) (w p b : Nat) :
    let s := runEv c (sysOf sh nw) evs
    (wk s w).phase = .working p b → chainReleased c s.sh p b = true →
    ∀ q, Desc (cfgOf c sh) q p → q ≠ p → getN s.sh.state q = DONE := by
  intro s hph hrel
  have W := cfgWF_of_initOk c sh h1
  obtain ⟨C, _⟩ := init2 c sh nw h2
  obtain ⟨a, _, pv⟩ := global_all_invariants c sh nw h1 h2 h3 evs
  exact finish_needs_descendants_done (cfgOf c sh) W (colOf sh) C sh.typ (pipeStatic_of_initOk3 c sh h3) s a pv w p b
    hph hrel

example : initOk3 exCfg (parallelInit exCfg) = true := by decide +kernel
example : initOk3 exCfg2 (parallelInit exCfg2) = true := by decide +kernel

end Slu
