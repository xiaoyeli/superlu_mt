/-
C11 — equilibration: scale factors, application rule and reported flag agree.

Over Model/Equil.lean (exact rationals; `smlnum bignum small large thresh` are parameters, `0 < smlnum ≤ bignum`).
The theorems about gsequ, laqgs and the outputs of the driver frame hold for any `LawfulEntry` type (`Rat` with |x|
for s/d, `Cx` with abs1 = |re|+|im| for c/z).  The gsequ theorems are read off one closed form, `gsequ_cases`.
-/
import SluVerif.Proofs.EquilGsequ
import Mathlib.Algebra.BigOperators.Ring.Finset

set_option linter.unusedSectionVars false

namespace Slu.Equil
open Entry

section gsequ
variable {E : Type} [Entry E] [Zero E] [LawfulEntry E]

/-- a row without stored entries counts as zero -/
def RowZero (A : SpMat E) (i : Nat) : Prop := ∀ e ∈ A.stored, e.1 = i → e.2 = 0
/-- an empty column counts as zero -/
def ColZero (A : SpMat E) (j : Nat) : Prop := ∀ e ∈ A.col j, e.2 = 0

/-- the `Prop` twin of the model's Boolean `SpMat.wf`, which no theorem here uses -/
def SpMat.WF (A : SpMat E) : Prop := ∀ e ∈ A.stored, e.1 < A.nrow

theorem rowZero_iff (A : SpMat E) (i : Nat) : RowZero A i ↔ rowMax A i = 0 :=
  (rowMax_eq_zero_iff A i).symm

/-- the row scale factors gsequ returns when no row is zero: `1/clip(rowmax_i)` -/
def rowFactors (sml big : Rat) (A : SpMat E) : List Rat := (rowMaxPass A).map (clipInv sml big)

omit [Zero E] [LawfulEntry E] in
theorem rowFactors_get (sml big : Rat) (A : SpMat E) (i : Nat) (hi : i < A.nrow) :
    (rowFactors sml big A).getD i 0 = clipInv sml big (rowMax A i) := by
  unfold rowFactors
  rw [List.getD_eq_getElem?_getD, List.getElem?_map, rowMaxPass_get A i hi]
  rfl

theorem colMaxS_rowFactors_zero_iff (sml big : Rat) (hs : 0 < sml) (hb : sml ≤ big) (A : SpMat E)
    (hwf : A.WF) (j : Nat) : colMaxS A (rowFactors sml big A) j = 0 ↔ ColZero A j := by
  apply colMaxS_eq_zero_iff
  intro e he
  have hlt : e.1 < A.nrow := hwf e (A.col_mem_stored j e he)
  rw [rowFactors_get sml big A e.1 hlt]
  exact clipInv_pos sml big _ hs hb

/-! The two search loops `for i: if (r[i] == 0.) return i` of gsequ, in terms of the matrix. -/

theorem firstZero_rows (A : SpMat E) (i : Nat) :
    firstZero (rowMaxPass A) = some i ↔ IsFirst (RowZero A) A.nrow i := by
  rw [rowMaxPass_eq_map, firstZero_map_range]
  simp only [IsFirst, rowZero_iff]

theorem firstZero_rows_none (A : SpMat E) :
    firstZero (rowMaxPass A) = none ↔ ∀ i < A.nrow, ¬ RowZero A i := by
  rw [rowMaxPass_eq_map, firstZero_map_range_none]
  simp only [rowZero_iff]

theorem firstZero_cols (sml big : Rat) (hs : 0 < sml) (hb : sml ≤ big) (A : SpMat E) (hwf : A.WF) (j : Nat) :
    firstZero (colMaxPass A (rowFactors sml big A)) = some j ↔ IsFirst (ColZero A) A.ncol j := by
  rw [colMaxPass_eq_map, firstZero_map_range]
  simp only [IsFirst, colMaxS_rowFactors_zero_iff sml big hs hb A hwf]

theorem firstZero_cols_none (sml big : Rat) (hs : 0 < sml) (hb : sml ≤ big) (A : SpMat E) (hwf : A.WF) :
    firstZero (colMaxPass A (rowFactors sml big A)) = none ↔ ∀ j < A.ncol, ¬ ColZero A j := by
  rw [colMaxPass_eq_map, firstZero_map_range_none]
  simp only [colMaxS_rowFactors_zero_iff sml big hs hb A hwf, ne_eq]

/-- the state the row half hands to the column half when no row is zero -/
def rowDone (sml big : Rat) (A : SpMat E) (s : GsState) : GsState :=
  { s with r := rowFactors sml big A, amax := fmax 0 (rowMaxPass A), info := 0,
           rowcnd := max (fmin big (rowMaxPass A)) sml / min (fmax 0 (rowMaxPass A)) big }

omit [Zero E] [LawfulEntry E] in
/-- Closed form of gsequ on a non-empty matrix, by what its two search loops find, in the order of the code: zero
row, zero column of `diag(R)·A`, success. -/
theorem gsequ_cases (sml big : Rat) (hbig : 0 < big) (A : SpMat E) (s : GsState) (hm : 0 < A.nrow) (hn : 0 < A.ncol) :
    gsequ true sml big A s =
      match firstZero (rowMaxPass A) with
      | some i => { s with r := rowMaxPass A, amax := fmax 0 (rowMaxPass A), info := (i : Int) + 1 }
      | none =>
        match firstZero (colMaxPass A (rowFactors sml big A)) with
        | some j =>
          { rowDone sml big A s with c := colMaxPass A (rowFactors sml big A),
                                     info := (A.nrow : Int) + (j : Int) + 1 }
        | none =>
          { rowDone sml big A s with
              c := (colMaxPass A (rowFactors sml big A)).map (clipInv sml big),
              colcnd := max (fmin big (colMaxPass A (rowFactors sml big A))) sml /
                        min (fmax 0 (colMaxPass A (rowFactors sml big A))) big } := by
  have h : (A.nrow == 0 || A.ncol == 0) = false := by
    rw [Bool.or_eq_false_iff, beq_eq_false_iff_ne, beq_eq_false_iff_ne]
    omega
  unfold gsequ
  rw [gsequRowPart_eq sml big hbig, h]
  cases firstZero (rowMaxPass A) with
  | some i => rfl
  | none => exact gsequColPart_eq sml big hbig A (rowDone sml big A s)

/-- Without a zero row the outputs of the row half are final, whatever the column half finds. -/
theorem gsequ_row_fields (sml big : Rat) (hs : 0 < sml) (hb : sml ≤ big) (A : SpMat E) (s : GsState)
    (hm : 0 < A.nrow) (hn : 0 < A.ncol) (hrows : ∀ i < A.nrow, ¬ RowZero A i) :
    (gsequ true sml big A s).r = rowFactors sml big A ∧
    (gsequ true sml big A s).amax = fmax 0 (rowMaxPass A) ∧
    (gsequ true sml big A s).rowcnd = max (fmin big (rowMaxPass A)) sml / min (fmax 0 (rowMaxPass A)) big ∧
    ((gsequ true sml big A s).info = 0 ∨ (A.nrow : Int) < (gsequ true sml big A s).info) := by
  rw [gsequ_cases sml big (lt_of_lt_of_le hs hb) A s hm hn, (firstZero_rows_none A).mpr hrows]
  cases firstZero (colMaxPass A (rowFactors sml big A)) with
  | none => exact ⟨rfl, rfl, rfl, Or.inl rfl⟩
  | some j => exact ⟨rfl, rfl, rfl, Or.inr (by show (A.nrow : Int) < A.nrow + j + 1; omega)⟩

/-- `info = i+1` (with `i < m`) exactly when `i` is the first exactly-zero row; then only `r` (raw row maxima),
`amax` and `info` are written. -/
theorem gsequ_zero_row (sml big : Rat) (hs : 0 < sml) (hb : sml ≤ big) (A : SpMat E) (s : GsState)
    (hm : 0 < A.nrow) (hn : 0 < A.ncol) (i : Nat) :
    (IsFirst (RowZero A) A.nrow i ↔ (i < A.nrow ∧ (gsequ true sml big A s).info = (i : Int) + 1)) ∧
    (IsFirst (RowZero A) A.nrow i →
      gsequ true sml big A s =
        { s with r := (List.range A.nrow).map (rowMax A), amax := fmax 0 (rowMaxPass A), info := (i : Int) + 1 }) := by
  rw [← firstZero_rows]
  cases hz : firstZero (rowMaxPass A) with
  | some k =>
    have hk : k < A.nrow := ((firstZero_rows A k).mp hz).1
    simp only [gsequ_cases sml big (lt_of_lt_of_le hs hb) A s hm hn, hz]
    refine ⟨⟨fun h => ?_, fun h => ?_⟩, fun h => ?_⟩
    · cases h
      exact ⟨hk, rfl⟩
    · rw [show k = i by omega]
    · cases h
      rw [← rowMaxPass_eq_map]
  | none =>
    refine ⟨⟨fun h => absurd h (Option.some_ne_none i).symm, fun h => ?_⟩,
      fun h => absurd h (Option.some_ne_none i).symm⟩
    -- `info = i+1 ≤ m`, but without a zero row `info` is 0 or exceeds `m`
    rcases (gsequ_row_fields sml big hs hb A s hm hn ((firstZero_rows_none A).mp hz)).2.2.2 with h0 | h0 <;>
      omega

/-- When no row is zero, `info = m+1+j` exactly when `j` is the first exactly-zero column; then `colcnd` is not
written and `c` holds the raw scaled column maxima. -/
theorem gsequ_zero_col (sml big : Rat) (hs : 0 < sml) (hb : sml ≤ big) (A : SpMat E) (s : GsState)
    (hm : 0 < A.nrow) (hn : 0 < A.ncol) (hwf : A.WF) (hrows : ∀ i < A.nrow, ¬ RowZero A i) (j : Nat) :
    (IsFirst (ColZero A) A.ncol j ↔
      (j < A.ncol ∧ (gsequ true sml big A s).info = (A.nrow : Int) + 1 + (j : Int))) ∧
    (IsFirst (ColZero A) A.ncol j →
      (gsequ true sml big A s).colcnd = s.colcnd ∧
      (gsequ true sml big A s).r = rowFactors sml big A ∧
      (gsequ true sml big A s).c = (List.range A.ncol).map (colMaxS A (rowFactors sml big A))) := by
  rw [← firstZero_cols sml big hs hb A hwf, gsequ_cases sml big (lt_of_lt_of_le hs hb) A s hm hn,
    (firstZero_rows_none A).mpr hrows]
  cases hz : firstZero (colMaxPass A (rowFactors sml big A)) with
  | none =>
    -- `info = 0` names no column
    refine ⟨⟨fun h => absurd h (Option.some_ne_none j).symm, fun h => ?_⟩,
      fun h => absurd h (Option.some_ne_none j).symm⟩
    have : (0 : Int) = A.nrow + 1 + j := h.2
    omega
  | some k =>
    have hk : k < A.ncol := ((firstZero_cols sml big hs hb A hwf k).mp hz).1
    refine ⟨⟨fun h => ?_, fun h => ?_⟩, fun h => ?_⟩
    · cases h
      exact ⟨hk, by show (A.nrow : Int) + j + 1 = _; omega⟩
    · have : (A.nrow : Int) + k + 1 = A.nrow + 1 + j := h.2
      rw [show k = j by omega]
    · exact ⟨rfl, rfl, colMaxPass_eq_map A _⟩

theorem gsequ_info_zero_iff (sml big : Rat) (hs : 0 < sml) (hb : sml ≤ big) (A : SpMat E) (s : GsState)
    (hm : 0 < A.nrow) (hn : 0 < A.ncol) (hwf : A.WF) :
    (gsequ true sml big A s).info = 0 ↔
      (∀ i < A.nrow, ¬ RowZero A i) ∧ (∀ j < A.ncol, ¬ ColZero A j) := by
  rw [← firstZero_rows_none, ← firstZero_cols_none sml big hs hb A hwf,
    gsequ_cases sml big (lt_of_lt_of_le hs hb) A s hm hn]
  cases firstZero (rowMaxPass A) with
  | some i => exact iff_of_false (fun (h : (i : Int) + 1 = 0) => by omega) fun h => Option.some_ne_none i h.1
  | none =>
    cases firstZero (colMaxPass A (rowFactors sml big A)) with
    | some j =>
      exact iff_of_false (fun (h : (A.nrow : Int) + j + 1 = 0) => by omega) fun h => Option.some_ne_none j h.2
    | none => exact iff_of_true rfl ⟨rfl, rfl⟩

omit [Zero E] [LawfulEntry E] in
/-- `amax` as gsequ computes it is the largest magnitude of the matrix -/
theorem amax_spec (A : SpMat E) (hwf : A.WF) :
    (∀ e ∈ A.stored, mag e.2 ≤ fmax 0 (rowMaxPass A)) ∧
    (fmax 0 (rowMaxPass A) = 0 ∨ ∃ e ∈ A.stored, mag e.2 = fmax 0 (rowMaxPass A)) := by
  rw [rowMaxPass_eq_map]
  constructor
  · intro e he
    exact (rowMax_ge A e he).trans (le_fmax_map 0 (rowMax A) (List.mem_range.mpr (hwf e he)))
  · rcases fmax_map_attained 0 (List.range A.nrow) (rowMax A) with h | ⟨i, _, hi⟩
    · exact .inl h
    · rw [← hi]
      exact (rowMax_attained A i).imp_right fun ⟨e, he, _, hmag⟩ => ⟨e, he, hmag⟩

/-- If no row is exactly zero then, whatever the column half does: `r_i = 1/clip(rowmax_i) > 0`, the exact
reciprocal unless clipped; `amax` is the largest magnitude; `rowcnd` is the formula of the code; `info` is 0 or
names a column. -/
theorem gsequ_rows (sml big : Rat) (hs : 0 < sml) (hb : sml ≤ big) (A : SpMat E) (s : GsState)
    (hm : 0 < A.nrow) (hn : 0 < A.ncol) (hwf : A.WF) (hrows : ∀ i < A.nrow, ¬ RowZero A i) :
    let o := gsequ true sml big A s
    o.r = (List.range A.nrow).map (fun i => clipInv sml big (rowMax A i)) ∧
    (∀ y ∈ o.r, 0 < y) ∧
    (∀ i < A.nrow, sml ≤ rowMax A i → rowMax A i ≤ big → o.r.getD i 0 * rowMax A i = 1) ∧
    ((∀ e ∈ A.stored, mag e.2 ≤ o.amax) ∧ ∃ e ∈ A.stored, mag e.2 = o.amax) ∧
    o.rowcnd = max (fmin big ((List.range A.nrow).map (rowMax A))) sml / min o.amax big ∧
    (o.info = 0 ∨ (A.nrow : Int) < o.info) := by
  obtain ⟨h1, h2, h3, h4⟩ := gsequ_row_fields sml big hs hb A s hm hn hrows
  refine ⟨?_, ?_, ?_, ?_, ?_, h4⟩
  · rw [h1]
    unfold rowFactors
    rw [rowMaxPass_eq_map, List.map_map]
    rfl
  · rw [h1]
    exact map_clipInv_pos sml big hs hb
  · intro i hi hlo hhi
    rw [h1, rowFactors_get sml big A i hi]
    exact clipInv_mul_self sml big hs hlo hhi
  · rw [h2]
    obtain ⟨ha, hb'⟩ := amax_spec A hwf
    refine ⟨ha, hb'.resolve_left fun h0 => ?_⟩
    -- `amax = 0` would make row 0 a zero row
    have hle := le_fmax_map 0 (rowMax A) (List.mem_range.mpr hm)
    rw [← rowMaxPass_eq_map, h0] at hle
    exact hrows 0 hm ((rowZero_iff A 0).mpr (le_antisymm hle (rowMax_nonneg A 0)))
  · rw [h3, h2, rowMaxPass_eq_map]

/-- Provided the largest magnitude is not below `smlnum`, the reported `rowcnd` is (smallest returned row factor) /
(largest returned row factor). -/
theorem gsequ_rowcnd_partial (sml big : Rat) (hs : 0 < sml) (hb : sml ≤ big) (A : SpMat E) (s : GsState)
    (hm : 0 < A.nrow) (hn : 0 < A.ncol) (hrows : ∀ i < A.nrow, ¬ RowZero A i)
    (hamax : sml ≤ (gsequ true sml big A s).amax) :
    let o := gsequ true sml big A s
    ∃ ra ∈ o.r, ∃ rb ∈ o.r, (∀ y ∈ o.r, ra ≤ y ∧ y ≤ rb) ∧ o.rowcnd = ra / rb := by
  intro o
  obtain ⟨h1, h2, h3, _⟩ := gsequ_row_fields sml big hs hb A s hm hn hrows
  have hne : rowMaxPass A ≠ [] := List.ne_nil_of_length_pos (by rw [rowMaxPass_length]; exact hm)
  rw [h1, h3]
  exact ratio_is_min_over_max sml big hs hb (rowMaxPass A) hne (h2 ▸ hamax)

/-- If neither a row nor a column is exactly zero then `info = 0` and the same holds of the columns of `diag(R)·A`:
`c_j = 1/clip(colmax_j) > 0`, `colcnd` is the formula of the code and, when the largest scaled column maximum is
not below `smlnum`, (smallest c)/(largest c). -/
theorem gsequ_cols (sml big : Rat) (hs : 0 < sml) (hb : sml ≤ big) (A : SpMat E) (s : GsState)
    (hm : 0 < A.nrow) (hn : 0 < A.ncol) (hwf : A.WF)
    (hrows : ∀ i < A.nrow, ¬ RowZero A i) (hcols : ∀ j < A.ncol, ¬ ColZero A j) :
    let o := gsequ true sml big A s
    o.info = 0 ∧
    o.c = (List.range A.ncol).map (fun j => clipInv sml big (colMaxS A o.r j)) ∧
    (∀ y ∈ o.c, 0 < y) ∧
    (∀ j < A.ncol, sml ≤ colMaxS A o.r j → colMaxS A o.r j ≤ big → o.c.getD j 0 * colMaxS A o.r j = 1) ∧
    o.colcnd = max (fmin big ((List.range A.ncol).map (colMaxS A o.r))) sml /
               min (fmax 0 ((List.range A.ncol).map (colMaxS A o.r))) big ∧
    (sml ≤ fmax 0 ((List.range A.ncol).map (colMaxS A o.r)) →
      ∃ ca ∈ o.c, ∃ cb ∈ o.c, (∀ y ∈ o.c, ca ≤ y ∧ y ≤ cb) ∧ o.colcnd = ca / cb) := by
  have hbig : 0 < big := lt_of_lt_of_le hs hb
  intro o
  have ho : o = { rowDone sml big A s with
      c := (colMaxPass A (rowFactors sml big A)).map (clipInv sml big),
      colcnd := max (fmin big (colMaxPass A (rowFactors sml big A))) sml /
                min (fmax 0 (colMaxPass A (rowFactors sml big A))) big } := by
    show gsequ true sml big A s = _
    simp only [gsequ_cases sml big hbig A s hm hn, (firstZero_rows_none A).mpr hrows,
      (firstZero_cols_none sml big hs hb A hwf).mpr hcols]
  have hne : colMaxPass A (rowFactors sml big A) ≠ [] :=
    List.ne_nil_of_length_pos (by rw [colMaxPass_length]; exact hn)
  rw [ho]
  dsimp only [rowDone]
  refine ⟨rfl, ?_, ?_, ?_, ?_, ?_⟩
  · rw [colMaxPass_eq_map, List.map_map]
    rfl
  · exact map_clipInv_pos sml big hs hb
  · intro j hj hlo hhi
    rw [List.getD_eq_getElem?_getD, List.getElem?_map, colMaxPass_get A _ j hj]
    exact clipInv_mul_self sml big hs hlo hhi
  · rw [colMaxPass_eq_map]
  · intro hmax
    rw [← colMaxPass_eq_map] at hmax
    exact ratio_is_min_over_max sml big hs hb _ hne hmax

/-- the magnitude of an entry scaled by a non-negative factor (abs1 for complex) -/
theorem laqgs_mag (s : Rat) (hs : 0 ≤ s) (e : E) : mag (smul s e) = s * mag e := by
  rw [LawfulEntry.mag_smul, abs_of_nonneg hs]

theorem scaled_max_one {α : Type} (l : List α) (g : α → Rat) (f : Rat) (hpos : 0 < fmax 0 (l.map g))
    (hf : f * fmax 0 (l.map g) = 1) : 0 < f ∧ (∀ e ∈ l, f * g e ≤ 1) ∧ ∃ e ∈ l, f * g e = 1 := by
  have hf0 : 0 < f := (mul_pos_iff_of_pos_right hpos).mp (hf ▸ one_pos)
  refine ⟨hf0, fun e he => ?_, ?_⟩
  · rw [← hf]
    exact mul_le_mul_of_nonneg_left (le_fmax_map 0 g he) (le_of_lt hf0)
  · obtain ⟨e, he, hge⟩ := (fmax_map_attained 0 l g).resolve_left (ne_of_gt hpos)
    exact ⟨e, he, by rw [hge, hf]⟩

/-- "The largest magnitude of every row of diag(R)·A is 1": in an unclipped row every `r_i·|a|` is at most 1 and one
of them equals 1. -/
theorem gsequ_scaled_rows (sml big : Rat) (hs : 0 < sml) (hb : sml ≤ big) (A : SpMat E) (s : GsState)
    (hm : 0 < A.nrow) (hn : 0 < A.ncol) (hwf : A.WF) (hrows : ∀ i < A.nrow, ¬ RowZero A i)
    (i : Nat) (hi : i < A.nrow) (hlo : sml ≤ rowMax A i) (hhi : rowMax A i ≤ big) :
    let o := gsequ true sml big A s
    (∀ e ∈ A.stored, e.1 = i → mag (smul (o.r.getD i 0) e.2) ≤ 1) ∧
    (∃ e ∈ A.stored, e.1 = i ∧ mag (smul (o.r.getD i 0) e.2) = 1) := by
  intro o
  obtain ⟨_, _, hone, _⟩ := gsequ_rows sml big hs hb A s hm hn hwf hrows
  have h1 : o.r.getD i 0 * rowMax A i = 1 := hone i hi hlo hhi
  have hpos : 0 < rowMax A i := lt_of_lt_of_le hs hlo
  -- in the form `fmax 0 (l.map g)`, from which `l` and `g` are inferred
  unfold rowMax rowMags at h1 hpos
  obtain ⟨hri, hle, e, he, heq⟩ := scaled_max_one _ _ (o.r.getD i 0) hpos h1
  have hmag := fun e : E => laqgs_mag _ (le_of_lt hri) e
  rw [List.mem_filter, beq_iff_eq] at he
  exact ⟨fun e he hei => (hmag e.2).trans_le (hle e (List.mem_filter.mpr ⟨he, beq_iff_eq.mpr hei⟩)),
    e, he.1, he.2, (hmag e.2).trans heq⟩

/-- For an unclipped column `j` of `diag(R)·A`, every magnitude of column `j` of `diag(R)·A·diag(C)` is at most 1
and one of them equals 1. -/
theorem gsequ_scaled_cols (sml big : Rat) (hs : 0 < sml) (hb : sml ≤ big) (A : SpMat E) (s : GsState)
    (hm : 0 < A.nrow) (hn : 0 < A.ncol) (hwf : A.WF)
    (hrows : ∀ i < A.nrow, ¬ RowZero A i) (hcols : ∀ j < A.ncol, ¬ ColZero A j)
    (j : Nat) (hj : j < A.ncol) :
    let o := gsequ true sml big A s
    sml ≤ colMaxS A o.r j → colMaxS A o.r j ≤ big →
    (∀ e ∈ A.col j, mag (smul (o.c.getD j 0 * o.r.getD e.1 0) e.2) ≤ 1) ∧
    (∃ e ∈ A.col j, mag (smul (o.c.getD j 0 * o.r.getD e.1 0) e.2) = 1) := by
  intro o hlo hhi
  obtain ⟨_, hrpos, _⟩ := gsequ_rows sml big hs hb A s hm hn hwf hrows
  obtain ⟨_, _, _, hone, _⟩ := gsequ_cols sml big hs hb A s hm hn hwf hrows hcols
  have h1 : o.c.getD j 0 * colMaxS A o.r j = 1 := hone j hj hlo hhi
  obtain ⟨hcj, hsc⟩ := scaled_max_one (A.col j) (fun e => mag e.2 * o.r.getD e.1 0) _ (lt_of_lt_of_le hs hlo) h1
  have hre : ∀ e : Nat × E, 0 ≤ o.r.getD e.1 0 := by
    intro e
    rw [List.getD_eq_getElem?_getD]
    cases h : o.r[e.1]? with
    | none => exact le_refl _
    | some y => exact le_of_lt (hrpos y (List.mem_of_getElem? h))
  have hval : ∀ e : Nat × E, mag (smul (o.c.getD j 0 * o.r.getD e.1 0) e.2) =
      o.c.getD j 0 * (mag e.2 * o.r.getD e.1 0) := by
    intro e
    rw [laqgs_mag _ (mul_nonneg (le_of_lt hcj) (hre e))]
    ring
  simp only [hval]
  exact hsc

theorem gsequ_empty (sml big : Rat) (A : SpMat E) (s : GsState) (h : A.nrow = 0 ∨ A.ncol = 0) :
    gsequ true sml big A s = { s with rowcnd := 1, colcnd := 1, amax := 0, info := 0 } := by
  unfold gsequ
  rcases h with h | h <;> simp [h]

theorem gsequ_badtype (sml big : Rat) (A : SpMat E) (s : GsState) :
    gsequ false sml big A s = { s with info := -1 } := by
  unfold gsequ
  simp

end gsequ

section examples

/-- `[[4,0],[1,2]]` in compressed-column form -/
def exA : SpMat Rat := ⟨2, [[(0, 4), (1, 1)], [(1, 2)]]⟩
/-- `[[4,0],[0,0]]` with a stored zero: row 1 and column 1 are exactly zero -/
def exZ : SpMat Rat := ⟨2, [[(0, 4)], [(1, 0)]]⟩
/-- `[[4,0],[1,0]]`: no zero row; column 1 has no stored entry, so it is zero -/
def exC : SpMat Rat := ⟨2, [[(0, 4), (1, 1)], []]⟩
/-- an incoming state of sentinels: what gsequ does not write shows -/
def exS : GsState := { r := [7, 7], c := [8, 8], rowcnd := -5, colcnd := -6, amax := -7, info := -9 }

theorem exA_wf : exA.WF := by
  unfold SpMat.WF
  decide +kernel
theorem exA_rows : ∀ i < exA.nrow, ¬ RowZero exA i := by
  unfold RowZero
  decide +kernel
theorem exA_cols : ∀ j < exA.ncol, ¬ ColZero exA j := by
  unfold ColZero
  decide +kernel

-- gsequ_rows / gsequ_cols / gsequ_info_zero_iff are not vacuous: their hypotheses hold for exA …
example : (gsequ true (1/8) 8 exA exS).info = 0 :=
  (gsequ_cols (1/8) 8 (by norm_num) (by norm_num) exA exS (by decide) (by decide) exA_wf exA_rows exA_cols).1
-- … and the model computes R = (1/4, 1/2), C = (1, 1), ratios 1/2 and 1, amax 4
example : gsequ true (1/8) 8 exA exS =
    { r := [1/4, 1/2], c := [1, 1], rowcnd := 1/2, colcnd := 1, amax := 4, info := 0 } := by decide +kernel
-- first zero row is 1 → info = 2; c, rowcnd, colcnd keep their incoming values
example : gsequ true (1/8) 8 exZ exS =
    { r := [4, 0], c := [8, 8], rowcnd := -5, colcnd := -6, amax := 4, info := 2 } := by decide +kernel
example : IsFirst (RowZero exZ) exZ.nrow 1 := by unfold IsFirst RowZero; decide +kernel
-- column 1 of exC is empty → info = m+1+1 = 4; colcnd keeps its incoming value
example : gsequ true (1/8) 8 exC exS =
    { r := [1/4, 1], c := [1, 0], rowcnd := 1/4, colcnd := -6, amax := 4, info := 4 } := by decide +kernel
-- quick return
example : gsequ true (1/8) 8 (⟨0, [[], []]⟩ : SpMat Rat) exS = { exS with rowcnd := 1, colcnd := 1, amax := 0, info := 0 } :=
  gsequ_empty _ _ _ _ (Or.inl rfl)
-- complex instance: abs1(3 - 4i) = 7
example : (gsequ true (1/8) 8 (⟨1, [[(0, (⟨3, -4⟩ : Cx))]]⟩ : SpMat Cx) exS).r = [1/7] := by decide +kernel

/-- Finding `gsequ:rowcnd-above-one`: with every magnitude below `smlnum` (smlnum = 1/2, bignum = 2, A = [1/8]) the
hypothesis of `gsequ_rowcnd_partial` fails and so does its conclusion: the only row factor is 2, so
(smallest r)/(largest r) = 1, but the routine reports `rowcnd = smlnum/amax = 4`. -/
theorem gsequ_rowcnd_counterexample :
    let A : SpMat Rat := ⟨1, [[(0, (1/8 : Rat))]]⟩
    let o := gsequ true (1/2) 2 A exS
    o.info = 0 ∧ o.r = [2] ∧ o.amax = 1/8 ∧ o.rowcnd = 4 ∧
    ¬ ∃ ra ∈ o.r, ∃ rb ∈ o.r, o.rowcnd = ra / rb := by
  intro A o
  have hr : o.r = [2] := by decide +kernel
  have hc : o.rowcnd = 4 := by decide +kernel
  refine ⟨by decide +kernel, hr, by decide +kernel, hc, ?_⟩
  rw [hr, hc]
  norm_num

end examples

section laqgs
variable {E : Type} [Entry E] [Zero E] [LawfulEntry E]

/-- the first test of laqgs succeeds: no row scaling -/
theorem rowOk_iff (small large thresh rowcnd amax : Rat) :
    (decide (rowcnd ≥ thresh) && decide (amax ≥ small) && decide (amax ≤ large)) = true ↔
      ¬ (rowcnd < thresh ∨ amax < small ∨ large < amax) := by
  simp only [Bool.and_eq_true, decide_eq_true_eq, not_or, not_lt, and_assoc]

theorem laqgsFlag_rowequ (small large thresh rowcnd colcnd amax : Rat) :
    (laqgsFlag small large thresh rowcnd colcnd amax).rowequ = true ↔
      (rowcnd < thresh ∨ amax < small ∨ large < amax) := by
  unfold laqgsFlag
  split
  · rename_i h
    rw [rowOk_iff] at h
    split <;> exact iff_of_false (by decide) h
  · rename_i h
    rw [rowOk_iff, not_not] at h
    split <;> exact iff_of_true rfl h

theorem laqgsFlag_colequ (small large thresh rowcnd colcnd amax : Rat) :
    (laqgsFlag small large thresh rowcnd colcnd amax).colequ = true ↔ colcnd < thresh := by
  unfold laqgsFlag
  by_cases h : colcnd ≥ thresh
  · simp only [h, if_true]
    split <;> exact iff_of_false (by decide) (not_lt.mpr h)
  · simp only [h, if_false]
    split <;> exact iff_of_true rfl (not_le.mp h)

/-- the matrix laqgs hands back together with a given flag -/
def laqgsOut (A : SpMat E) (r c : List Rat) : Equed → SpMat E
  | .noequil => A
  | .col => scaleBy A (fun j _ => c.getD j 0)
  | .row => scaleBy A (fun _ i => r.getD i 0)
  | .both => scaleBy A (fun j i => c.getD j 0 * r.getD i 0)

omit [Zero E] [LawfulEntry E] in
theorem laqgs_eq (small large thresh : Rat) (A : SpMat E) (r c : List Rat) (rowcnd colcnd amax : Rat)
    (hm : 0 < A.nrow) (hn : 0 < A.ncol) :
    laqgs small large thresh A r c rowcnd colcnd amax =
      (laqgsOut A r c (laqgsFlag small large thresh rowcnd colcnd amax),
       laqgsFlag small large thresh rowcnd colcnd amax) := by
  have h : (A.nrow == 0 || A.ncol == 0) = false := by
    rw [Bool.or_eq_false_iff, beq_eq_false_iff_ne, beq_eq_false_iff_ne]
    omega
  unfold laqgs laqgsFlag
  rw [h]
  by_cases h1 : (decide (rowcnd ≥ thresh) && decide (amax ≥ small) && decide (amax ≤ large)) = true <;>
    by_cases h2 : colcnd ≥ thresh <;> simp only [h1, h2, if_true, if_false, Bool.false_eq_true, laqgsOut]

/-- row scaling iff `rowcnd < thresh ∨ amax < small ∨ amax > large`, column scaling iff `colcnd < thresh` -/
theorem laqgs_table (small large thresh : Rat) (A : SpMat E) (r c : List Rat) (rowcnd colcnd amax : Rat)
    (hm : 0 < A.nrow) (hn : 0 < A.ncol) :
    let f := (laqgs small large thresh A r c rowcnd colcnd amax).2
    (f = laqgsFlag small large thresh rowcnd colcnd amax) ∧
    (f.rowequ = true ↔ (rowcnd < thresh ∨ amax < small ∨ large < amax)) ∧
    (f.colequ = true ↔ colcnd < thresh) := by
  rw [laqgs_eq small large thresh A r c rowcnd colcnd amax hm hn]
  exact ⟨rfl, laqgsFlag_rowequ .., laqgsFlag_colequ ..⟩

theorem laqgs_empty (small large thresh : Rat) (A : SpMat E) (r c : List Rat) (rowcnd colcnd amax : Rat)
    (h : A.nrow = 0 ∨ A.ncol = 0) :
    laqgs small large thresh A r c rowcnd colcnd amax = (A, .noequil) := by
  unfold laqgs
  rcases h with h | h <;> simp [h]

theorem laqgsOut_spec (A : SpMat E) (r c : List Rat) (f : Equed) :
    (laqgsOut A r c f).nrow = A.nrow ∧
    (laqgsOut A r c f).cols = A.cols.mapIdx (fun j col => col.map (fun e =>
      (e.1, smul ((if f.colequ then c.getD j 0 else 1) * (if f.rowequ then r.getD e.1 0 else 1)) e.2))) := by
  cases f
  · -- NOEQUIL: every factor is 1 and `smul 1 e = e`
    refine ⟨rfl, (List.mapIdx_eq_iff.mpr fun i => ?_).symm⟩
    simp only [Equed.colequ, Equed.rowequ, Bool.false_eq_true, if_false, mul_one, LawfulEntry.smul_one,
      List.map_id', Option.map_id']
    rfl
  -- ROW, COL, BOTH: `scaleBy` with the factor the two `if`s leave
  all_goals exact ⟨rfl, by simp only [laqgsOut, scaleBy, Equed.colequ, Equed.rowequ, if_true, if_false,
    Bool.false_eq_true, mul_one, one_mul]⟩

/-- `A_out = diag(R)^a · A · diag(C)^b` entry by entry (same pattern, same order), `a = 1` iff the returned flag is
ROW or BOTH, `b = 1` iff it is COL or BOTH; with flag NOEQUIL the matrix comes back unchanged. -/
theorem laqgs_effect (small large thresh : Rat) (A : SpMat E) (r c : List Rat) (rowcnd colcnd amax : Rat) :
    let out := laqgs small large thresh A r c rowcnd colcnd amax
    out.1.nrow = A.nrow ∧
    out.1.cols = A.cols.mapIdx (fun j col => col.map (fun e =>
      (e.1, smul ((if out.2.colequ then c.getD j 0 else 1) * (if out.2.rowequ then r.getD e.1 0 else 1)) e.2))) ∧
    (out.2 = .noequil → out.1 = A) := by
  have h : ∃ f, laqgs small large thresh A r c rowcnd colcnd amax = (laqgsOut A r c f, f) := by
    by_cases h0 : A.nrow = 0 ∨ A.ncol = 0
    · exact ⟨.noequil, laqgs_empty small large thresh A r c rowcnd colcnd amax h0⟩
    · exact ⟨_, laqgs_eq small large thresh A r c rowcnd colcnd amax (by omega) (by omega)⟩
  obtain ⟨f, hf⟩ := h
  rw [hf]
  exact ⟨(laqgsOut_spec A r c f).1, (laqgsOut_spec A r c f).2, fun h => by rw [show f = .noequil from h]; rfl⟩

end laqgs

section laqgs_examples
-- rowcnd = 1/100 < 1/10 forces row scaling only
example : let l := laqgs (1/1024) 1024 (1/10) exA [1/4, 1/2] [1, 1] (1/100) 1 4
    (l.1.cols, l.2) = ([[(0, 1), (1, 1/2)], [(1, 1)]], .row) := by decide +kernel
-- amax above `large` forces row scaling although rowcnd is fine; colcnd < thresh adds column scaling
example : (laqgs (1/1024) 1024 (1/10) exA [1/4, 1/2] [3, 5] 1 (1/20) 2000).2 = .both := by decide +kernel
example : let l := laqgs (1/1024) 1024 (1/10) exA [1/4, 1/2] [3, 5] 1 (1/20) 4
    (l.1.cols, l.2) = ([[(0, 12), (1, 3)], [(1, 10)]], .col) := by decide +kernel
example : let l := laqgs (1/1024) 1024 (1/10) exA [1/4, 1/2] [3, 5] 1 (1/10) 4
    (l.1.cols, l.2) = (exA.cols, .noequil) := by decide +kernel
-- complex: both components are multiplied
example : (laqgs (1/1024) 1024 (1/10) (⟨1, [[(0, (⟨3, -4⟩ : Cx))]]⟩ : SpMat Cx) [2] [5] 0 0 1).1.cols
    = [[(0, ⟨30, -40⟩)]] := by decide +kernel
end laqgs_examples

section frame

/-- the B-argument documentation of p?gssvx (header comment of SRC/pdgssvx.c, "B (input/output)"):
NC: trans = N and equed ∈ {ROW,BOTH} → diag(R)·B;  trans ∈ {T,C} and equed ∈ {COL,BOTH} → diag(C)·B;
NR: trans = N and equed ∈ {COL,BOTH} → diag(C)·B;  trans ∈ {T,C} and equed ∈ {ROW,BOTH} → diag(R)·B. -/
def docB (nr : Bool) (trans : Nat) (eq : Equed) : Which :=
  match nr, trans == TRANS_NOTRANS with
  | false, true => if eq.rowequ then .byR else .none
  | false, false => if eq.colequ then .byC else .none
  | true, true => if eq.colequ then .byC else .none
  | true, false => if eq.rowequ then .byR else .none

/-- derived, not transcribed: the solution of the scaled system is multiplied by the vector that did not scale B.
For row-wise storage this differs from the X paragraph of the header, which gives the NC rule there. -/
def docX (nr : Bool) (trans : Nat) (eq : Equed) : Which :=
  match nr, trans == TRANS_NOTRANS with
  | false, true => if eq.colequ then .byC else .none
  | false, false => if eq.rowequ then .byR else .none
  | true, true => if eq.rowequ then .byR else .none
  | true, false => if eq.colequ then .byC else .none

/-- The code's decision (`notran` after the NR flip, then the two nested tests) is `docB` for B and `docX` for X,
for both storage orientations, every `trans` and every flag. -/
theorem gssvx_equil_frame (nr : Bool) (trans : Nat) (eq : Equed) :
    bScale (notranEff nr trans) eq.rowequ eq.colequ = docB nr trans eq ∧
    xScale (notranEff nr trans) eq.rowequ eq.colequ = docX nr trans eq := by
  unfold bScale xScale notranEff docB docX
  cases nr <;> cases eq <;> cases (trans == TRANS_NOTRANS) <;> simp [Equed.rowequ, Equed.colequ]

theorem gssvx_frame_noequil (notran : Bool) :
    bScale notran Equed.noequil.rowequ Equed.noequil.colequ = .none ∧
    xScale notran Equed.noequil.rowequ Equed.noequil.colequ = .none := by
  cases notran <;> simp [bScale, xScale, Equed.rowequ, Equed.colequ]

example : bScale (notranEff true 0) Equed.both.rowequ Equed.both.colequ = .byC := by decide
example : xScale (notranEff true 0) Equed.both.rowequ Equed.both.colequ = .byR := by decide
example : bScale (notranEff false 2) Equed.row.rowequ Equed.row.colequ = .none := by decide

end frame

section frameOutputs
variable {E : Type} [Entry E] [Zero E] [LawfulEntry E]

/-- what `gssvxEquil` assembles from `notran`, gsequ's outputs `g` and the matrix and flag `al` it ends up with -/
def frameOf (notran : Bool) (g : GsState) (al : SpMat E × Equed) (B : List (List E)) : FrameOut E :=
  { A := al.1, B := scaleDense (bScale notran al.2.rowequ al.2.colequ) g.r g.c B, R := g.r, C := g.c,
    equed := al.2, rowequ := al.2.rowequ, colequ := al.2.colequ, notran, info1 := g.info,
    xw := xScale notran al.2.rowequ al.2.colequ }

omit [Zero E] [LawfulEntry E] in
theorem gssvxEquil_equilibrate (P : Params) (nr : Bool) (trans : Nat) (eqIn : Equed) (AA : SpMat E)
    (B : List (List E)) (R C : List Rat) (rc0 cc0 am0 : Rat) :
    let g := gsequ true P.sml P.big AA { r := R, c := C, rowcnd := rc0, colcnd := cc0, amax := am0, info := 0 }
    gssvxEquil P nr trans FACT_EQUILIBRATE eqIn AA B R C rc0 cc0 am0 =
      frameOf (notranEff nr trans) g
        (if g.info = 0 then laqgs P.small P.large P.thresh AA g.r g.c g.rowcnd g.colcnd g.amax
         else (AA, .noequil)) B := by
  unfold gssvxEquil
  generalize gsequ true P.sml P.big AA { r := R, c := C, rowcnd := rc0, colcnd := cc0, amax := am0, info := 0 } = g
  by_cases hg : g.info = 0
  · simp only [hg, if_true, beq_self_eq_true, frameOf]
  · simp only [hg, if_false, beq_eq_false_iff_ne.mpr hg, Bool.false_eq_true]
    rfl

/-- What the driver frame hands back for `fact = EQUILIBRATE`: gsequ's R and C; laqgs's A and flag if gsequ's
info is 0, else A untouched and flag NOEQUIL; B scaled by the vector the frame rule names; with flag NOEQUIL
A and B come back unchanged. -/
theorem gssvx_equil_outputs (P : Params) (nr : Bool) (trans : Nat) (eqIn : Equed) (AA : SpMat E)
    (B : List (List E)) (R C : List Rat) (rc0 cc0 am0 : Rat) :
    let g := gsequ true P.sml P.big AA { r := R, c := C, rowcnd := rc0, colcnd := cc0, amax := am0, info := 0 }
    let l := laqgs P.small P.large P.thresh AA g.r g.c g.rowcnd g.colcnd g.amax
    let f := gssvxEquil P nr trans FACT_EQUILIBRATE eqIn AA B R C rc0 cc0 am0
    f.R = g.r ∧ f.C = g.c ∧ f.info1 = g.info ∧
    (g.info = 0 → f.A = l.1 ∧ f.equed = l.2) ∧
    (g.info ≠ 0 → f.A = AA ∧ f.equed = .noequil) ∧
    f.B = scaleDense (bScale (notranEff nr trans) f.equed.rowequ f.equed.colequ) f.R f.C B ∧
    f.xw = xScale (notranEff nr trans) f.equed.rowequ f.equed.colequ ∧
    (f.equed = .noequil → f.A = AA ∧ f.B = B) := by
  intro g l f
  have hf : f = frameOf (notranEff nr trans) g (if g.info = 0 then l else (AA, .noequil)) B :=
    gssvxEquil_equilibrate P nr trans eqIn AA B R C rc0 cc0 am0
  rw [hf]
  dsimp only [frameOf]
  refine ⟨rfl, rfl, rfl, fun h => ?ok, fun h => ?bad, rfl, rfl, fun h => ⟨?_, ?_⟩⟩
  case ok =>
    rw [if_pos h]
    exact ⟨rfl, rfl⟩
  case bad =>
    rw [if_neg h]
    exact ⟨rfl, rfl⟩
  · split
    · rename_i hg
      rw [if_pos hg] at h
      exact (laqgs_effect P.small P.large P.thresh AA g.r g.c g.rowcnd g.colcnd g.amax).2.2 h
    · rfl
  · rw [h, (gssvx_frame_noequil _).1]
    rfl

/-- the frame for `fact = FACTORED`: A, R, C and the flag are inputs and come back unchanged, B is
scaled by the vector the rule names for the incoming flag; for `fact = DOFACT` nothing is scaled. -/
theorem gssvx_factored_outputs (P : Params) (nr : Bool) (trans : Nat) (eqIn : Equed) (AA : SpMat E)
    (B : List (List E)) (R C : List Rat) (rc0 cc0 am0 : Rat) :
    (let f := gssvxEquil P nr trans FACT_FACTORED eqIn AA B R C rc0 cc0 am0
     f.A = AA ∧ f.R = R ∧ f.C = C ∧ f.equed = eqIn ∧
     f.B = scaleDense (bScale (notranEff nr trans) eqIn.rowequ eqIn.colequ) R C B ∧
     f.xw = xScale (notranEff nr trans) eqIn.rowequ eqIn.colequ) ∧
    (let f := gssvxEquil P nr trans FACT_DOFACT eqIn AA B R C rc0 cc0 am0
     f.A = AA ∧ f.R = R ∧ f.C = C ∧ f.equed = .noequil ∧ f.B = B ∧ f.xw = .none) := by
  refine ⟨⟨rfl, rfl, rfl, rfl, rfl, rfl⟩, rfl, rfl, rfl, rfl, ?_, ?_⟩
  · show scaleDense (bScale (notranEff nr trans) Equed.noequil.rowequ Equed.noequil.colequ) R C B = B
    rw [(gssvx_frame_noequil _).1]
    rfl
  · exact (gssvx_frame_noequil _).2

end frameOutputs

section sound
open Finset

/-- the factor a `Which` names -/
def fac (w : Which) (R C : Nat → Rat) (i : Nat) : Rat :=
  match w with
  | .none => 1
  | .byR => R i
  | .byC => C i

/-- a solution of the system scaled by `diag ρ` on the left and `diag γ` on the right, scaled back by `γ`, solves
the original one -/
theorem scaled_solve (n : Nat) (A : Nat → Nat → Rat) (ρ γ : Nat → Rat) (hρ : ∀ i, ρ i ≠ 0) (B y : Nat → Rat)
    (h : ∀ i < n, ∑ j ∈ range n, ρ i * A i j * γ j * y j = ρ i * B i) :
    ∀ i < n, ∑ j ∈ range n, A i j * (γ j * y j) = B i := by
  intro i hi
  apply mul_left_cancel₀ (hρ i)
  rw [← h i hi, Finset.mul_sum]
  exact Finset.sum_congr rfl fun j _ => by ring

/-- `B` gets the row factor of the system solved, `X` the column factor -/
theorem fac_scale (R C : Nat → Rat) (eq : Equed) (i : Nat) :
    fac (bScale true eq.rowequ eq.colequ) R C i = (if eq.rowequ then R i else 1) ∧
    fac (bScale false eq.rowequ eq.colequ) R C i = (if eq.colequ then C i else 1) ∧
    fac (xScale true eq.rowequ eq.colequ) R C i = (if eq.colequ then C i else 1) ∧
    fac (xScale false eq.rowequ eq.colequ) R C i = (if eq.rowequ then R i else 1) := by
  cases eq <;> exact ⟨rfl, rfl, rfl, rfl⟩

/-- About dense functions and the proof-side `fac` (no theorem ties them to `laqgs` / `gssvxEquil`): with
`As = diag(R)^a · A · diag(C)^b`, `(a,b)` given by the flag, if `y` solves `As·y = Bs` (resp. `Asᵀ·y = Bs`) for the
right-hand side scaled by the factor `bScale` names, then `y` scaled by the factor `xScale` names solves `A·x = B`
(resp. `Aᵀ·x = B`). -/
theorem equil_solve_sound (n : Nat) (A : Nat → Nat → Rat) (R C : Nat → Rat)
    (hR : ∀ i, R i ≠ 0) (hC : ∀ j, C j ≠ 0) (eq : Equed) (notran : Bool) (B y : Nat → Rat) :
    let ra : Nat → Rat := fun i => if eq.rowequ then R i else 1
    let cb : Nat → Rat := fun j => if eq.colequ then C j else 1
    let As : Nat → Nat → Rat := fun i j => ra i * A i j * cb j
    let Bs : Nat → Rat := fun i => fac (bScale notran eq.rowequ eq.colequ) R C i * B i
    let x : Nat → Rat := fun i => fac (xScale notran eq.rowequ eq.colequ) R C i * y i
    (notran = true → (∀ i < n, ∑ j ∈ range n, As i j * y j = Bs i) →
        ∀ i < n, ∑ j ∈ range n, A i j * x j = B i) ∧
    (notran = false → (∀ j < n, ∑ i ∈ range n, As i j * y i = Bs j) →
        ∀ j < n, ∑ i ∈ range n, A i j * x i = B j) := by
  intro ra cb As Bs x
  have hra : ∀ i, ra i ≠ 0 := by
    intro i
    show (if eq.rowequ then R i else 1) ≠ 0
    split
    · exact hR i
    · exact one_ne_zero
  have hcb : ∀ j, cb j ≠ 0 := by
    intro j
    show (if eq.colequ then C j else 1) ≠ 0
    split
    · exact hC j
    · exact one_ne_zero
  constructor
  · rintro rfl h
    simp only [x, (fac_scale R C eq _).2.2.1]
    refine scaled_solve n A ra cb hra B y fun i hi => ?_
    exact (h i hi).trans (congrArg (· * B i) (fac_scale R C eq i).1)
  · -- the transposed system: the roles of (R, rows) and (C, columns) are exchanged
    rintro rfl h
    simp only [x, (fac_scale R C eq _).2.2.2]
    refine scaled_solve n (fun j i => A i j) cb ra hcb B y fun j hj => ?_
    refine Eq.trans (Finset.sum_congr rfl fun i _ => ?_)
      ((h j hj).trans (congrArg (· * B j) (fac_scale R C eq j).2.1))
    show cb j * A i j * ra i * y i = ra i * A i j * cb j * y i
    ring

-- 1×1 system 2·x = 6 with R = 1/2, C = 3, flag BOTH, no transpose: As = 3, Bs = 3, y = 1, x = 3
example : let A : Nat → Nat → Rat := fun _ _ => 2
    ∀ i < 1, ∑ j ∈ range 1, A i j * (fac (xScale true Equed.both.rowequ Equed.both.colequ) (fun _ => 1/2) (fun _ => 3) j * 1) = 6 := by
  intro A
  refine (equil_solve_sound 1 A (fun _ => 1/2) (fun _ => 3) (by intro; norm_num) (by intro; norm_num)
    .both true (fun _ => 6) (fun _ => 1)).1 rfl ?_
  intro i _
  norm_num [A, fac, bScale, Equed.rowequ, Equed.colequ]

end sound

section frame_examples
def exP : Params := ⟨1/8, 8, 1/2, 2, 1/10⟩
-- the whole frame on exA = [[4,0],[1,2]] with row scaling forced by a small `large`:
-- NR storage, trans = N  ⇒  effective transpose, B is not scaled by R (flag ROW), X is scaled by R
def exF1 : FrameOut Rat := gssvxEquil exP true 0 FACT_EQUILIBRATE .noequil exA [[1, 1]] [9, 9] [9, 9] 0 0 0
example : exF1.equed = .row ∧ exF1.R = [1/4, 1/2] ∧ exF1.C = [1, 1] ∧
    exF1.A.cols = [[(0, 1), (1, 1/2)], [(1, 1)]] ∧ exF1.B = [[1, 1]] ∧ exF1.xw = Which.byR := by decide +kernel
-- NC storage, trans = N, same matrix: B is scaled by R
def exF2 : FrameOut Rat := gssvxEquil exP false 0 FACT_EQUILIBRATE .noequil exA [[1, 1]] [9, 9] [9, 9] 0 0 0
example : (exF2.equed, exF2.B, exF2.xw) = (.row, [[1/4, 1/2]], Which.none) := by decide +kernel
-- zero row: gsequ reports it, nothing is scaled, the flag stays NOEQUIL
def exF3 : FrameOut Rat := gssvxEquil exP false 0 FACT_EQUILIBRATE .both exZ [[1, 1]] [9, 9] [9, 9] 0 0 0
example : (exF3.equed, exF3.info1, exF3.A.cols, exF3.B) = (.noequil, 2, exZ.cols, [[1, 1]]) := by decide +kernel
-- FACTORED with the user's flag COL and trans = T: B is scaled by C
def exF4 : FrameOut Rat := gssvxEquil exP false 1 FACT_FACTORED .col exA [[1, 1]] [2, 3] [5, 7] 0 0 0
example : (exF4.equed, exF4.B, exF4.xw) = (.col, [[5, 7]], Which.none) := by decide +kernel
end frame_examples

end Slu.Equil
