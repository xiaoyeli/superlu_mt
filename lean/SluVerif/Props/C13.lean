/-
C13 — refinement returns truthful backward errors and dominating forward bounds, over Model/Rfs.lean (`?gsrfs`) and
Model/Lacon.lean.
-/
import SluVerif.Props.C12

namespace Slu
open Finset

/-- at most `ITMAX = 5` corrections per right-hand side, whatever the solve does -/
theorem rfs_terminates (A : NCMat) (c : RfsCfg) (solve : Trans → RVec → RVec) (b x : RVec) (lstres : Rat) (count : Nat)
    (h : count ≤ rfsItmax) :
    count ≤ (refineLoop A c solve b x lstres count).count ∧ (refineLoop A c solve b x lstres count).count ≤ rfsItmax := by
  fun_induction refineLoop A c solve b x lstres count with
  | case1 x lstres count r berr hcond ih =>
    omega
  | case2 x lstres count r berr hcond => exact ⟨le_refl _, h⟩

/-- On every exit path (berr ≤ eps, not halved, or count = ITMAX) the returned `berr` is the guarded componentwise
backward error ω of the `x` that is returned, and the residual kept in `work` (from which the forward bound is
formed) is that of the same `x`: it is recomputed after each correction.  No assumption on `solve`. -/
theorem berr_of_returned_x (A : NCMat) (c : RfsCfg) (solve : Trans → RVec → RVec) (b x : RVec) (lstres : Rat) (count : Nat) :
    (refineLoop A c solve b x lstres count).berr = omega A c b (refineLoop A c solve b x lstres count).x ∧
    (refineLoop A c solve b x lstres count).r = residual c.notran A b (refineLoop A c solve b x lstres count).x := by
  fun_induction refineLoop A c solve b x lstres count with
  | case1 x lstres count r berr hcond ih => exact ih
  | case2 x lstres count r berr hcond => exact ⟨rfl, rfl⟩

/-- the same, for what `?gsrfs` hands back column by column -/
theorem gsrfs_berr_truthful (A : NCMat) (c : RfsCfg) (solve : Trans → RVec → RVec) (B X : List RVec)
    (hn : A.nrow ≠ 0) (hB : B.length ≠ 0) :
    (gsrfs A c solve B X).berr = (B.zip X).map (fun bx => omega A c bx.1 (rfsColumn A c solve bx.1 bx.2).x) ∧
    (gsrfs A c solve B X).cols = (B.zip X).map (fun bx => rfsColumn A c solve bx.1 bx.2) := by
  unfold gsrfs
  simp only [hn, hB, or_self, if_false, List.map_map, and_true]
  apply List.map_congr_left
  intro bx _
  simp only [Function.comp, rfsColumn]
  exact (berr_of_returned_x A c solve bx.1 bx.2 3 0).1

/-- a start vector that already solves the system exactly: zero corrections -/
example : (refineLoop { nrow := 1, ncol := 1, cols := #[#[(0, 2)]] }
    { trans := .NOTRANS, rowequ := false, colequ := false, R := #[1], C := #[1], eps := 1 / 1024, safmin := 1 / 2 ^ 40 }
    (fun _ r => rmk 1 fun i => rget r i / 2) #[6] #[3] 3 0).count = 0 := by decide +kernel

/-- a perturbed start vector: exactly one correction, then berr = 0 -/
example : (refineLoop { nrow := 1, ncol := 1, cols := #[#[(0, 2)]] }
    { trans := .NOTRANS, rowequ := false, colequ := false, R := #[1], C := #[1], eps := 1 / 1024, safmin := 1 / 2 ^ 40 }
    (fun _ r => rmk 1 fun i => rget r i / 2) #[6] #[4] 3 0).count = 1 ∧
    (refineLoop { nrow := 1, ncol := 1, cols := #[#[(0, 2)]] }
    { trans := .NOTRANS, rowequ := false, colequ := false, R := #[1], C := #[1], eps := 1 / 1024, safmin := 1 / 2 ^ 40 }
    (fun _ r => rmk 1 fun i => rget r i / 2) #[6] #[4] 3 0).berr = 0 := by decide +kernel

/-- `notran` and the opposite sense `transt` (for the estimator's `kase = 1` request) as functions of `trans`; and if
`solve trans` is an exact solve for the operator the residual uses, one correction annihilates the residual. -/
theorem rfs_transpose_sense (A : NCMat) (c : RfsCfg) (solve : Trans → RVec → RVec) (b x : RVec)
    (hsq : A.ncol = A.nrow) (hrows : A.rowsOk)
    (hsolve : ∀ r i, i < A.nrow → opMul c.notran A (solve c.trans r) i = rget r i) :
    (c.notran = true ↔ c.trans = .NOTRANS) ∧
    (c.transt = if c.trans = .NOTRANS then .TRANS else .NOTRANS) ∧
    (∀ i, i < A.nrow →
      rget (residual c.notran A b (vadd A.nrow x (solve c.trans (residual c.notran A b x)))) i = 0) := by
  refine ⟨?_, ?_, ?_⟩
  · unfold RfsCfg.notran
    cases c.trans <;> simp
  · unfold RfsCfg.transt RfsCfg.notran
    cases c.trans <;> simp
  · intro i hi
    unfold residual
    rw [rget_rmk_lt hi, opMul_vadd c.notran A hsq hrows x _ i hi, hsolve _ i hi, rget_rmk_lt hi]
    ring

example : (RfsCfg.transt { trans := .CONJ, rowequ := false, colequ := false, R := #[], C := #[], eps := 0, safmin := 0 }) = .NOTRANS := by
  decide

/-- the matrix whose 1-norm the estimator is asked for: `T i j = W_i · Bop j i · D_j`, i.e. `Tᵀ = D·Bop·diag(W)` -/
def ferrT (n : Nat) (c : RfsCfg) (Bop : Nat → Nat → Rat) (w : RVec) : Nat → Nat → Rat :=
  fun i j => rget w i * Bop j i * rget (dVec n c) j

theorem rget_vmul {n : Nat} (w x : RVec) {i : Nat} (h : i < n) : rget (vmul n w x) i = rget w i * rget x i := by
  unfold vmul
  rw [rget_rmk_lt h]

/-- `diag(a)·B·diag(b)` as one matrix `T` -/
theorem vmul_matVec_vmul (n : Nat) (a b : RVec) (B : Nat → Nat → Rat) {T : Nat → Nat → Rat}
    (hT : ∀ i j, T i j = rget a i * B i j * rget b j) (x : RVec) :
    vmul n a (matVec n B (vmul n b x)) = matVec n T x := by
  unfold vmul matVec
  apply rmk_congr
  intro i hi
  rw [rget_rmk_lt hi, rsum_eq, rsum_eq, Finset.mul_sum]
  apply Finset.sum_congr rfl
  intro j hj
  rw [rget_rmk_lt (mem_range.mp hj), hT]
  ring

/-- With exact solves (`solve trans = Bop·`, `solve transt = Bopᵀ·`, `Bop = op(A)⁻¹`) the dialogue's `kase = 1`
operator is `T·` and its `kase = 2` operator is `Tᵀ·` with `Tᵀ = D·op(A)⁻¹·diag(W)`; `D = C`, `R` or `I`
according to `(notran, colequ, rowequ)`. -/
theorem ferr_operator (n : Nat) (c : RfsCfg) (solve : Trans → RVec → RVec) (Bop : Nat → Nat → Rat) (w : RVec)
    (h1 : solve c.trans = matVec n Bop) (h2 : solve c.transt = matVecT n Bop) :
    ferrOp1 n c solve w = matVec n (ferrT n c Bop w) ∧ ferrOp2 n c solve w = matVecT n (ferrT n c Bop w) := by
  constructor
  · funext x
    unfold ferrOp1
    rw [h2, matVecT_eq]
    exact vmul_matVec_vmul n w (dVec n c) (trD Bop) (fun _ _ => rfl) x
  · funext x
    unfold ferrOp2
    rw [h1, matVecT_eq]
    exact vmul_matVec_vmul n (dVec n c) w Bop (fun i j => by unfold trD ferrT; ring) x

/-- hence (by `lacon_upper`) the returned `ferr` is at most `‖D·op(A)⁻¹·diag(W)‖∞ / ‖D·x‖∞`, which for `D, W ≥ 0` is
`‖D·|op(A)⁻¹|·W‖∞ / ‖D·x‖∞` (`Bop` stands for `op(A)⁻¹`; that this dominates the forward error is not proved here) -/
theorem ferr_le_bound (A : NCMat) (hn : 1 ≤ A.nrow) (c : RfsCfg) (solve : Trans → RVec → RVec) (Bop : Nat → Nat → Rat) (b x0 : RVec)
    (h1 : solve c.trans = matVec A.nrow Bop) (h2 : solve c.transt = matVecT A.nrow Bop)
    (hx : 0 < xNormD A.nrow c (rfsColumn A c solve b x0).x) :
    (rfsColumn A c solve b x0).ferr
      ≤ normInf A.nrow (trD (ferrT A.nrow c Bop (rfsColumn A c solve b x0).w)) / xNormD A.nrow c (rfsColumn A c solve b x0).x := by
  have hop := ferr_operator A.nrow c solve Bop (rfsColumn A c solve b x0).w h1 h2
  have hne : xNormD A.nrow c (rfsColumn A c solve b x0).x ≠ 0 := ne_of_gt hx
  have hf : (rfsColumn A c solve b x0).ferr
      = (runLacon A.nrow (ferrOp1 A.nrow c solve (rfsColumn A c solve b x0).w)
            (ferrOp2 A.nrow c solve (rfsColumn A c solve b x0).w)).io.est
          / xNormD A.nrow c (rfsColumn A c solve b x0).x := by
    have hne' : xNormD A.nrow c (refineLoop A c solve b x0 3 0).x ≠ 0 := hne
    simp only [rfsColumn, hne', ne_eq, not_false_eq_true, if_true]
  rw [hf, hop.1, hop.2, normInf_trD]
  exact div_le_div_of_nonneg_right (lacon_upper A.nrow hn _ _) (le_of_lt hx)

/-- `n = 0` or `nrhs = 0`: every `ferr[j] = berr[j] = 0`, nothing else is done -/
theorem quick_return (A : NCMat) (c : RfsCfg) (solve : Trans → RVec → RVec) (B X : List RVec)
    (h : A.nrow = 0 ∨ B.length = 0) :
    (gsrfs A c solve B X).ferr = List.replicate B.length 0 ∧ (gsrfs A c solve B X).berr = List.replicate B.length 0 ∧
    (gsrfs A c solve B X).cols = [] ∧ (gsrfs A c solve B X).info = 0 := by
  unfold gsrfs
  simp only [h, if_true, and_true]
  constructor <;> exact List.map_const'

example : (gsrfs { nrow := 0, ncol := 0, cols := #[] } default (fun _ r => r) [#[], #[]] [#[], #[]]).berr = [0, 0] := by
  decide +kernel

end Slu
