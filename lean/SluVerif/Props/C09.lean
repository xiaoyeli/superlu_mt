/-
C09 — returned L, U and permutations are well-formed data structures.  `SCP.wf` / `NCP.wf` / `checkPerm` are the
executable forms of the property's conjunctions, evaluated on every factorization the real library returns.  Here, what
passing them buys: the dense L denoted is unit lower triangular, the dense U upper triangular, and every sub-diagonal row
of a supernode belongs to a later-numbered one, so sweeping the supernodes in index order is a valid substitution order.
(`checkPerm_iff` is in Model/Perm.lean, `fixupL` in Props/C09Fixup.lean; no theorem speaks of the model of `countnz`.)
-/
import SluVerif.Proofs.SparseWf

namespace Slu

theorem wf_col_in_snode (L : SCP) (h : L.wf = true) (j : Nat) (hj : j < L.n) :
    let s := L.sn.getD (geti L.colToSup j).toNat default
    s.f ≤ j ∧ j < s.e ∧ s.wf L.n = true :=
  (wf_col_covered L h j hj).2

theorem wf_gives_unit_lower (L : SCP) (one : Int) (h : L.wf = true) (i j : Nat) (hj : j < L.n) :
    (i = j → L.entryL one i j = one) ∧ (i < j → L.entryL one i j = 0) := by
  refine ⟨fun e => if_pos e, fun hij => ?_⟩
  obtain ⟨-, he, hw⟩ := wf_col_in_snode L h j hj
  simp only [SCP.entryL, if_neg (Nat.ne_of_lt hij)]
  generalize L.sn.getD (geti L.colToSup j).toNat default = s at he hw ⊢
  cases hp : rowPos s.rows i with
  | none => rfl
  | some k =>
    -- `i < j` is an own column, at offset `i - f`: above the diagonal of column `j`
    obtain ⟨h1, h2, -⟩ := rowPos_wf L.n s hw i k hp
    have hk : k = i - s.f := h2 (Nat.lt_trans hij he)
    exact if_neg (by omega)

theorem wf_gives_upper (L : SCP) (U : NCP) (h : L.wf = true) (hu : U.wf L = true) (i j : Nat) (hj : j < L.n)
    (hji : j < i) : entryU L U i j = 0 := by
  obtain ⟨hf, he, hw⟩ := wf_col_in_snode L h j hj
  obtain ⟨hrows, -⟩ := (ncp_wf_parts L U hu).2 j hj
  simp only [entryU, SCP.fsupc] at hrows ⊢
  generalize L.sn.getD (geti L.colToSup j).toNat default = s at hf he hw hrows ⊢
  cases hp : rowPos s.rows i with
  | some k =>
    -- `i > j` is a later own column (offset `i - f > j - f`) or a sub-diagonal row (offset `≥ e - f`)
    obtain ⟨h1, h2, h3⟩ := rowPos_wf L.n s hw i k hp
    refine if_neg fun hk => ?_
    rcases Nat.lt_or_ge i s.e with hie | hie
    · omega
    · omega
  | none =>
    -- every row of the NCP column is above the first column of `j`'s supernode
    cases hq : rowPos (U.cols.getD j default).rows i with
    | none => rfl
    | some k =>
      obtain ⟨hk2, hget⟩ := rowPos_some _ i k hq
      have := (hrows _ (hget ▸ geti_mem k hk2)).2.1
      omega

theorem wf_dep_order (L : SCP) (h : L.wf = true) (s : Nat) (hs : s < L.sn.size)
    (r : Int) (hr : r ∈ (L.sn.getD s default).rows.toList.drop ((L.sn.getD s default).e - (L.sn.getD s default).f)) :
    (s : Int) < geti L.colToSup r.toNat :=
  wf_depOrder L h s hs r hr

end Slu
