/- C17 — no resource leaks: the ledger checker (Model/Ledger.lean), run on the allocation log of the real library
   (harness built with its USER_MALLOC/USER_FREE override points).  Along a legal trace, block by block,
   #live + #frees = #initially live + #allocs (`replayL_balance`; `replayL_count` is the same with an unused `Nodup`
   hypothesis), so a block is live iff allocated once more than freed (`replayL_live_iff`: no double free, no lost block);
   the judges accept exactly the legal traces with everything freed (`checkBalanced_iff`), resp. with exactly the
   returned blocks live (`checkCall_iff`). -/
import SluVerif.Model.Ledger
import Mathlib.Tactic.Linarith
import Mathlib.Data.List.Nodup

namespace Slu

theorem allocCount_eq_count (a : Nat) (tr : List LEv) : allocCount a tr = tr.count (.alloc a) :=
  List.count_eq_length_filter.symm

theorem freeCount_eq_count (a : Nat) (tr : List LEv) : freeCount a tr = tr.count (.free (some a)) :=
  List.count_eq_length_filter.symm

theorem replayL_alloc {live live' : List Nat} {id : Nat} {tr : List LEv} :
    replayL live (.alloc id :: tr) = some live' ↔ id ∉ live ∧ replayL (live ++ [id]) tr = some live' := by
  simp [replayL]

theorem replayL_free {live live' : List Nat} {id : Nat} {tr : List LEv} :
    replayL live (.free (some id) :: tr) = some live' ↔ id ∈ live ∧ replayL (live.erase id) tr = some live' := by
  simp [replayL]

theorem replayL_nodup (tr : List LEv) : ∀ live live', live.Nodup → replayL live tr = some live' → live'.Nodup := by
  induction tr with
  | nil =>
    intro live live' h hr
    cases hr
    exact h
  | cons e tr ih =>
    intro live live' h hr
    match e with
    | .alloc id =>
      obtain ⟨hid, hr⟩ := replayL_alloc.1 hr
      exact ih _ _ (List.nodup_append.2 ⟨h, List.nodup_singleton id, fun a ha b hb e =>
        hid (List.mem_singleton.1 hb ▸ e ▸ ha)⟩) hr
    | .free (some id) => exact ih _ _ (h.erase id) (replayL_free.1 hr).2
    | .free none => cases hr

theorem replayL_balance (tr : List LEv) : ∀ live live', replayL live tr = some live' →
    ∀ a, live'.count a + freeCount a tr = live.count a + allocCount a tr := by
  simp only [allocCount_eq_count, freeCount_eq_count]
  induction tr with
  | nil =>
    intro live live' hr
    cases hr
    exact fun _ => rfl
  | cons e tr ih =>
    intro live live' hr a
    match e with
    | .alloc id =>
      have := ih _ _ (replayL_alloc.1 hr).2 a
      rw [List.count_append, List.count_singleton] at this
      rw [List.count_cons, List.count_cons]
      -- both sides gain the same `if id = a then 1 else 0`
      simp only [beq_iff_eq, LEv.alloc.injEq, reduceCtorEq, if_false] at this ⊢
      omega
    | .free (some id) =>
      obtain ⟨hid, hr⟩ := replayL_free.1 hr
      have := ih _ _ hr a
      have hpos := List.count_pos_iff.2 hid
      rw [List.count_erase] at this
      rw [List.count_cons, List.count_cons]
      simp only [beq_iff_eq, LEv.free.injEq, Option.some.injEq, reduceCtorEq, if_false] at this ⊢
      by_cases e : id = a
      · -- the freed block was live (`hpos`), so the subtraction in `this` is exact
        subst e
        rw [if_pos rfl] at this ⊢
        omega
      · rw [if_neg e] at this ⊢
        omega
    | .free none => cases hr

theorem replayL_count (tr : List LEv) : ∀ live live', live.Nodup → replayL live tr = some live' →
    ∀ a, live'.count a + freeCount a tr = live.count a + allocCount a tr :=
  fun live live' _ hr => replayL_balance tr live live' hr

theorem replayL_live_iff (tr : List LEv) (live' : List Nat) (hr : replayL [] tr = some live') (a : Nat) :
    (a ∈ live' ↔ allocCount a tr = freeCount a tr + 1) ∧ (a ∉ live' ↔ allocCount a tr = freeCount a tr) := by
  have hn := replayL_nodup tr [] live' List.nodup_nil hr
  have hc := replayL_balance tr [] live' hr a
  rw [hn.count, List.count_nil] at hc
  by_cases h : a ∈ live'
  · simp only [h, if_true, true_iff, not_true, false_iff] at hc ⊢
    omega
  · simp only [h, if_false, false_iff, not_false_iff, true_iff] at hc ⊢
    omega

theorem checkBalanced_iff (tr : List LEv) :
    checkBalanced tr = true ↔ ∃ live, replayL [] tr = some live ∧ ∀ a, allocCount a tr = freeCount a tr := by
  unfold checkBalanced
  cases hr : replayL [] tr with
  | none => simp
  | some live =>
    simp only [List.isEmpty_iff, Option.some.injEq, exists_eq_left']
    constructor
    · intro he a
      subst he
      exact (replayL_live_iff tr [] hr a).2.1 List.not_mem_nil
    · intro h
      exact List.eq_nil_iff_forall_not_mem.2 fun a => (replayL_live_iff tr live hr a).2.2 (h a)

theorem checkCall_iff (tr : List LEv) (returned : List Nat) :
    checkCall tr returned = true ↔
      ∃ live, replayL [] tr = some live ∧ ∀ a, (a ∈ returned ↔ allocCount a tr = freeCount a tr + 1) ∧
                                               (a ∉ returned ↔ allocCount a tr = freeCount a tr) := by
  unfold checkCall
  cases hr : replayL [] tr with
  | none => simp
  | some live =>
    simp only [Bool.and_eq_true, List.all_eq_true, List.contains_iff_mem, Option.some.injEq, exists_eq_left']
    have hl := replayL_live_iff tr live hr
    constructor
    · intro ⟨h1, h2⟩ a
      have hiff : a ∈ returned ↔ a ∈ live := ⟨h2 a, h1 a⟩
      exact ⟨hiff.trans (hl a).1, (not_congr hiff).trans (hl a).2⟩
    · intro h
      have hiff : ∀ a, a ∈ returned ↔ a ∈ live := fun a => (h a).1.trans (hl a).1.symm
      exact ⟨fun a => (hiff a).2, fun a => (hiff a).1⟩

example : checkCall [.alloc 1, .alloc 2, .free (some 1), .alloc 3] [2, 3] = true := by decide
example : checkCall [.alloc 1, .alloc 2, .free (some 1), .alloc 3] [3] = false := by decide          -- block 2 leaked
example : checkBalanced [.alloc 1, .free (some 1), .free (some 1)] = false := by decide               -- double free
example : leaked [.alloc 1, .alloc 2, .free (some 1), .alloc 3] [3] = [2] := by decide

end Slu
