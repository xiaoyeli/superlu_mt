/-
C16 — diagonal pivoting at threshold 0 (symmetric mode).  Model level, every size and matrix: in a column step with
`u = 0` and no pivot reuse a still unpivoted diagonal row with a nonzero candidate value is the pivot
(`step_diag_pivot`); if that holds at every step of a factorization, `perm_r[diagOf j] = j` for all j, i.e. the row
permutation equals the column permutation (`factor_diag_pivots`).  That diagonal dominance keeps the diagonal nonzero
and that the fill stays inside the symmetric prediction are checked per run, not proved here.
-/
import SluVerif.Props.LU

namespace Slu

theorem step_diag_pivot_of_threshold (P : LUParams) (st : LUState) (hus : st.usepr = false)
    (d : Nat) (hdiag : P.diagOf st.k = Int.ofNat d) (hdc : d ∈ candRows P st) (hne : stepC P st d ≠ 0)
    (hge : ∀ i, i ∈ candRows P st → P.u * qabs (stepC P st i) ≤ qabs (stepC P st d)) :
    (stepSel P st).info = 0 ∧ stepRow P st = d := by
  obtain ⟨idx, hidx, hget⟩ := List.getElem_of_mem hdc
  have hgetD : (candRows P st).getD idx 0 = d := (List.getElem_eq_getD 0).symm.trans hget
  have hinfo : (stepSel P st).info = 0 := by_contra fun h => hne (stepC_all_zero P st h d hdc)
  have huniq : ∀ i, (pivIn P st (stepU P st)).cand i → (pivIn P st (stepU P st)).row i = P.diagOf st.k →
      i = idx := by
    intro i hi hr
    have hil := pivIn_cand.1 hi
    rw [pivIn_row hil, hdiag] at hr
    -- candidate rows are listed without repetition: equal rows sit at equal positions
    refine (List.Nodup.getElem_inj_iff (candRows_nodup P st)).1 (?_ : (candRows P st)[i] = (candRows P st)[idx])
    rw [hget, ← Int.ofNat.inj hr]
    exact List.getElem_eq_getD 0
  refine ⟨hinfo, (congrArg ((candRows P st).getD · 0) ?_).trans hgetD⟩
  refine (pivot_diag_preferred (pivIn P st (stepU P st)) hinfo (pivotDecide_usepr_off _ _ hus) idx
    (pivIn_cand.2 hidx) ((pivIn_row hidx).trans (hgetD ▸ hdiag.symm)) huniq ?_ ?_).1
  · -- the magnitude at `idx` is nonzero …
    rw [pivIn_mag hidx, hgetD]
    exact fun h0 => hne (qabs_eq_zero.1 h0)
  · -- … and at least `u ·` every candidate's
    intro i hi
    have hil := pivIn_cand.1 hi
    rw [pivIn_mag hidx, pivIn_mag hil, hgetD]
    exact hge _ (list_getD_mem hil)

theorem step_diag_pivot (P : LUParams) (st : LUState) (hu : P.u = 0) (hus : st.usepr = false)
    (d : Nat) (hdiag : P.diagOf st.k = Int.ofNat d) (hdc : d ∈ candRows P st) (hne : stepC P st d ≠ 0) :
    (stepSel P st).info = 0 ∧ stepRow P st = d :=
  step_diag_pivot_of_threshold P st hus d hdiag hdc hne fun i _ => by
    rw [hu, zero_mul]
    exact qabs_nonneg _

/-- at every one of `m` steps the diagonal row is unpivoted with a nonzero candidate -/
def DiagAlive (P : LUParams) : Nat → LUState → Prop
  | 0, _ => True
  | m + 1, st => (∃ d, P.diagOf st.k = Int.ofNat d ∧ d ∈ candRows P st ∧ stepC P st d ≠ 0) ∧ DiagAlive P m (luStep P st)

theorem run_diag_pivots (P : LUParams) (hu : P.u = 0) (m : Nat) (st : LUState) (hus : st.usepr = false)
    (inv : LUInv P st) (hm : st.k + m ≤ P.n) (alive : DiagAlive P m st)
    (hprev : ∀ j, j < st.k → P.diagOf j = Int.ofNat (st.piv.getD j 0)) :
    ∀ j, j < st.k + m → P.diagOf j = Int.ofNat ((luRun P m st).piv.getD j 0) := by
  induction m generalizing st with
  | zero => exact hprev
  | succ m ih =>
    obtain ⟨⟨d, hd1, hd2, hd3⟩, alive'⟩ := alive
    obtain ⟨-, hrow⟩ := step_diag_pivot P st hu hus d hd1 hd2 hd3
    intro j hj
    have hk1 := luStep_k P st
    -- `(luStep P st).usepr` is `(stepSel P st).usepr` by definition
    refine ih (luStep P st) (pivotDecide_usepr_off _ _ hus) (luInv_step P st inv (by omega)) (by omega) alive'
      (fun i hi => ?_) j (by omega)
    rw [luStep_piv inv]
    split
    · next e =>
        rw [e, hrow]
        exact hd1
    · next e => exact hprev i (by omega)

theorem factor_diag_pivots (P : LUParams) (hu : P.u = 0) (alive : DiagAlive P P.n (luInit P.n false)) :
    ∀ j, j < P.n → ∃ d, P.diagOf j = Int.ofNat d ∧ posOf (factor P false) d = some j := by
  obtain ⟨inv, hk⟩ := luInv_factor P false
  intro j hj
  have hrun := run_diag_pivots P hu P.n (luInit P.n false) rfl (luInv_init P false) (Nat.le_of_eq (Nat.zero_add _))
    alive (fun i hi => absurd hi (Nat.not_lt_zero i)) j ((Nat.zero_add _).symm ▸ hj)
  exact ⟨_, hrun, (inv.pos_piv j (hk ▸ hj)).2⟩

/-! non-vacuity: diagonally dominant, larger entry below the diagonal in column 0 (partial pivoting would swap) -/
def exDiag : LUParams := { n := 2, A := #[#[2, 1], #[3, 5]], u := 0, diagOf := fun j => j, oldInv := fun _ => 0 }
example : permROf 2 (factor exDiag false) = #[0, 1] := by decide +kernel
example : permROf 2 (factor { exDiag with u := 1 } false) = #[1, 0] := by decide +kernel

end Slu
