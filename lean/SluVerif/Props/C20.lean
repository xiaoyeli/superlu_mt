/- C20 — file readers return exactly the matrix a well-formed file encodes: property theorems over the reader model
`Model/Read.lean` (SRC/?readhb.c, ?readrb.c, ?readmt.c) and the independent writer `Model/ReadWrite.lean`. -/
import SluVerif.Proofs.ReadHeader
import SluVerif.Proofs.ReadBody
import SluVerif.Proofs.ReadMT
namespace Slu.Read

/-- `atoi` of the `Iw` edit of `k` (right-justified, blank padded) is `k`; the field has width `w` when the
digits fit. -/
theorem fmtInt_roundtrip (w k : Nat) (hk : k < 2147483648) :
    atoiC (fmtInt w k) = some (k : Int) ∧ ((natDigits k).length ≤ w → (fmtInt w k).length = w) :=
  ⟨atoiC_fmtInt w hk, fun h => fmtInt_length h⟩

example : atoiC (fmtInt 8 1234) = some 1234 := (fmtInt_roundtrip 8 1234 (by decide)).1
/- Test vectors are evaluated by the kernel, where a string literal's `toList` is not reduced structurally (it runs the
UTF-8 decoder): rewrite it to the list of its characters first. -/
example : atoiC "    1234".toList = some 1234 := by
  rw [String.toList_ofList]
  decide

theorem fmtInt_roundtrip_neg (w k : Nat) (hk : k ≤ 2147483648) :
    atoiC (fmtIntZ w (-(k : Int))) = some (-(k : Int)) := by
  by_cases h0 : k = 0
  · subst h0
    exact atoiC_fmtInt w (by decide)
  · have hv : inInt32 (applySign true (valOf (natDigits k))) = true := by
      simp [valOf_natDigits, applySign, inInt32]
      omega
    have := atoiC_of_scanInt (scanInt_text true false (wsAll_blanks (w - ('-' :: natDigits k).length))
      (natDigits_allDig k) (natDigits_ne_nil k) (rest := []) trivial hv)
    rw [valOf_natDigits, List.append_nil] at this
    rw [fmtIntZ, if_pos (by omega), show (-(k : Int)).natAbs = k by omega]
    exact this

example : atoiC (fmtIntZ 6 (-(42 : Nat))) = some (-42) := fmtInt_roundtrip_neg 6 42 (by decide)
example : atoiC "   -42".toList = some (-42) := by
  rw [String.toList_ofList]
  decide

/-- the reader's `where[i] = atoi(field) - 1` on the 1-based field of a 0-based index. -/
theorem convIndex_roundtrip (w i : Nat) (hi : i + 1 < 2147483648) : convIndex (fmtInt w (i + 1)) = some (i : Int) :=
  convIndex_fmtInt w hi

example : convIndex (fmtInt 5 7) = some 6 := convIndex_roundtrip 5 6 (by decide)
example : convIndex "    7".toList = some 6 := by
  rw [String.toList_ofList]
  decide

/-- `?ParseIntFormat` on a buffer that contains `(nIw)` (either case of `I`, any prefix without `(`, anything behind
the `)` — blanks, the tail of the title line): `num = n`, `size = w`. -/
theorem parseIntFormat_spec (d : IntDesc) (tail : Str)
    (hpre : ∀ x ∈ d.pre, (x == '(') = false) (hI : isI d.letter = true)
    (hn : d.n < 2147483648) (hw : d.w < 2147483648) :
    parseIntFormat (d.text ++ tail) = some ((d.n : Int), (d.w : Int)) :=
  parseIntFormat_text d tail hpre hI hn hw

example : parseIntFormat "(16I5)          title tail (9I9)".toList = some (16, 5) := by
  rw [String.toList_ofList]
  decide
example : parseIntFormat (({ n := 13, letter := 'i', w := 6 } : IntDesc).text ++ []) = some (13, 6) :=
  parseIntFormat_spec _ _ (by decide) (by decide) (by decide) (by decide)

/-- `?ParseFloatFormat` on `([kP]nXw.d…)`, `X ∈ {E,e,D,d,F,f}`, anything from the `.` (or `)`) on: `num = n`,
`size = w`. -/
theorem parseFloatFormat_spec (d : RealDesc) (tail : Str) (h : d.WF) :
    parseFloatFormat (d.text ++ tail) = some ((d.n : Int), (d.w : Int)) :=
  parseFloatFormat_text d tail h

example : parseFloatFormat "(1P5E16.8)      x".toList = some (5, 16) := by
  rw [String.toList_ofList]
  decide +kernel
example : parseFloatFormat "(4D20.13)".toList = some (4, 20) := by
  rw [String.toList_ofList]
  decide +kernel
example : parseFloatFormat "(6f13.6)".toList = some (6, 13) := by
  rw [String.toList_ofList]
  decide +kernel
example : parseFloatFormat "(3e26.18E3)".toList = some (3, 26) := by
  rw [String.toList_ofList]
  decide +kernel
example : ({ scale := some (1, 'P'), n := 5, letter := 'E', w := 16 } : RealDesc).WF := by decide

/-- finding `descriptor-without-repeat-count`: a legal descriptor without a count gives `num = 0`. -/
theorem parseIntFormat_no_count : parseIntFormat "(I8)".toList = some (0, 8) := by
  rw [String.toList_ofList]
  decide
theorem parseFloatFormat_no_count : parseFloatFormat "(E12.4)".toList = some (0, 12) := by
  rw [String.toList_ofList]
  decide
/-- So does a comma after the scale factor: the count is read directly behind the `P`. -/
theorem parseFloatFormat_comma : parseFloatFormat "(1P,2E12.4)".toList = some (0, 12) := by
  rw [String.toList_ofList]
  decide
/-- With `perline = 0` the card loop never terminates (`none`), whatever the input. -/
theorem readItems_perline_zero {α : Type} (conv : Str → Option α) (w : Int) (need : Nat) (s : Str) (h : 0 < need) :
    readItems conv 0 w need s = none := by
  unfold readItems
  rw [if_neg (by omega), if_pos (Or.inl (Int.le_refl 0))]

/-- `?ReadVector`/`?ReadValues` cut a buffered card that starts with `k` fields of width `w` (`k*w < 100`) into
those fields, whatever follows. -/
theorem slice_spec (w : Nat) (fs : List Str) (tail : Str)
    (hw : ∀ f ∈ fs, f.length = w) (hb : fs.length * w < 100) :
    fieldsFrom w fs.length 0 (fs.flatten ++ tail) = some fs :=
  fieldsFrom_flatten w fs 0 tail hw (by omega)

example : fieldsFrom 4 3 0 "   1  22 333 pad\n".toList = some ["   1".toList, "  22".toList, " 333".toList] := by
  repeat rw [String.toList_ofList]
  decide +kernel
/-- a store of the temporary NUL at `buf[100]` or beyond is outside the buffer. -/
example : fieldsFrom 50 2 0 (List.replicate 99 '1') = none := by decide

/-- `atof` (after `D`→`E`) of a right-justified printed decimal `[±] digits . digits [ (E|e|D|d) [±] digits ]` is
exactly the decimal it denotes. -/
theorem atof_printed_decimal (w : Nat) (d : Dec) (h : d.WF) : convValue (padLeft w d.text) = some d.value :=
  convValue_text w d h

example : convValue "  -0.1250D+02".toList = some (-1250, -2) := by
  rw [String.toList_ofList]
  decide +kernel
example : convValue "   1.5e-3".toList = some (15, -4) := by
  rw [String.toList_ofList]
  decide +kernel
example : convValue "    .5".toList = some (5, -1) := by
  rw [String.toList_ofList]
  decide +kernel
example : ({ neg := true, plus := false, ip := ['0'], fp := "1250".toList,
             ex := some { letter := 'D', neg := false, plus := true, ds := "02".toList } } : Dec).WF := by
  rw [String.toList_ofList]
  decide

theorem readItems_writeItems_spec {α : Type} (conv : Str → Option α) (g : Str → α) (perline w : Nat) (trail : Str)
    (fs : List Str) (rest : Str)
    (hp : 0 < perline) (hb : perline * w + trail.length ≤ 98) (htr : NoNL trail)
    (hw : ∀ f ∈ fs, f.length = w) (hnl : ∀ f ∈ fs, NoNL f) (hconv : ∀ f ∈ fs, conv f = some (g f)) :
    readItems conv (perline : Int) (w : Int) fs.length (writeItems perline trail fs.length fs ++ rest) =
      some (fs.map g, rest) := by
  have := readItems_written conv id g perline w trail fs rest hp hb htr
    fun f hf => ⟨hw f hf, hnl f hf, hconv f hf⟩
  rwa [List.map_id] at this

example : readItems convIndex 2 3 3 "  1  2\n  3\nrest".toList = some ([0, 1, 2], "rest".toList) := by
  repeat rw [String.toList_ofList]
  decide +kernel

/-- admissibility of what the HB writer is told (`cplx`: complex precisions read two reals per entry).  `*_line`: a data
card with its padding and newline fits `fgets(buf,100)` (99 characters). -/
structure HBFile.WF (f : HBFile) (cplx : Bool) : Prop where
  title : f.title.length = 72
  key : f.key.length = 8
  trail : NoNL f.trail
  totcrd : f.totcrd < 2147483648
  ptrcrd : f.ptrcrd < 2147483648
  indcrd : f.indcrd < 2147483648
  valcrd : f.valcrd < 2147483648
  rhscrd : f.rhscrd < 2147483648
  mxtype : f.mxtype.length = 3
  pad11 : f.pad11.length = 11
  nrow : f.nrow < 2147483648
  ncol : f.ncol < 2147483648
  nnz : f.nnz < 2147483648
  neltvl : f.neltvl < 2147483648
  ptrfmt : f.ptrfmt.WF
  indfmt : f.indfmt.WF
  valfmt : f.valfmt.WF
  valfmt_len : f.valfmt.text.length ≤ 20
  rhsfmt : f.rhsfmt.length = 20
  rhsline : NoNL f.rhsline
  ptr_n : 0 < f.ptrfmt.n
  ptr_line : f.ptrfmt.n * f.ptrfmt.w + f.trail.length ≤ 98
  ind_n : 0 < f.indfmt.n
  ind_line : f.indfmt.n * f.indfmt.w + f.trail.length ≤ 98
  val_n : 0 < f.valfmt.n
  val_line : f.valfmt.n * f.valfmt.w + f.trail.length ≤ 98
  colptr_len : f.colptr.length = f.ncol + 1
  rowind_len : f.rowind.length = f.nnz
  vals_len : f.vals.length = (if cplx then 2 else 1) * f.nnz
  colptr_fit : ∀ p ∈ f.colptr, p + 1 < 2147483648 ∧ (natDigits (p + 1)).length ≤ f.ptrfmt.w
  rowind_fit : ∀ i ∈ f.rowind, i + 1 < 2147483648 ∧ (natDigits (i + 1)).length ≤ f.indfmt.w
  vals_fit : ∀ v ∈ f.vals, v.WF ∧ v.text.length ≤ f.valfmt.w

/-- **`?readhb` returns exactly the matrix the file encodes**: for every admissible `f` (any title/key/padding, any
descriptor triple whose cards fit `fgets(buf,100)`, any exponent letters and signs, with or without the RHS header
card, real or complex), reading what the writer wrote gives back the dimensions, the nonzero count, the 0-based column
pointers and row indices, and for every value field the exact decimal it prints (`none` when VALCRD = 0). -/
theorem readHB_writeHB (cplx : Bool) (f : HBFile) (h : f.WF cplx) :
    readHB cplx (writeHB f) =
      some { nrow := f.nrow, ncol := f.ncol, nnz := f.nnz,
             colptr := f.colptr.map (fun (p : Nat) => (p : Int)), rowind := f.rowind.map (fun (p : Nat) => (p : Int)),
             vals := if f.valcrd = 0 then none else some (f.vals.map Dec.value) } := by
  have hbody := readBody_written cplx f.nrow f.valcrd f.after h.trail h.ptr_n h.ptr_line h.ind_n h.ind_line
    h.val_n h.val_line h.colptr_len h.rowind_len h.vals_len h.colptr_fit h.rowind_fit h.vals_fit
  unfold writeHB
  -- the card lemmas speak of `card body trail ++ rest`; their `_` is `rest`
  simp only [List.append_assoc]
  unfold readHB
  simp only [
    hbLine1_card f.title f.key f.trail _ h.title h.key h.trail,                       -- card 1
    cardInts_card (take14s_cons (fmtInt14_field h.totcrd) (take14s_cons (fmtInt14_field h.ptrcrd)
      (take14s_cons (fmtInt14_field h.indcrd) (take14s_cons (fmtInt14_field h.valcrd)
      (take14s_one (fmtInt14_field h.rhscrd)))))) f.trail _ h.trail,                  -- card 2
    line3_card h.mxtype h.pad11 (take14s_cons (fmtInt14_field h.nrow) (take14s_cons (fmtInt14_field h.ncol)
      (take14s_cons (fmtInt14_field h.nnz) (take14s_one (fmtInt14_field h.neltvl))))) f.trail _ h.trail,  -- card 3
    hbLine4_card f.title f.ptrfmt f.indfmt f.valfmt f.rhsfmt f.trail _ h.ptrfmt h.indfmt h.valfmt h.valfmt_len
      h.rhsfmt h.trail,                                                              -- card 4
    List.getD_cons_succ, List.getD_cons_zero]
  by_cases hr : f.rhscrd = 0
  · rw [if_pos hr, if_neg (by omega)]
    exact hbody
  · rw [if_neg hr, if_pos (by omega), card_append, List.nil_append, dumpLine_line h.rhsline]
    exact hbody

/-- `trail_len`: line 1 (80 characters and the padding) is read by `fgets(buf,100)` too, 80 + 18 = 98. -/
structure RBFile.WF (f : RBFile) (cplx : Bool) : Prop where
  title : f.title.length = 80
  title_nl : NoNL f.title
  trail : NoNL f.trail
  trail_len : f.trail.length ≤ 18
  totcrd : f.totcrd < 2147483648
  ptrcrd : f.ptrcrd < 2147483648
  indcrd : f.indcrd < 2147483648
  valcrd : f.valcrd < 2147483648
  mxtype : f.mxtype.length = 3
  pad11 : f.pad11.length = 11
  nrow : f.nrow < 2147483648
  ncol : f.ncol < 2147483648
  nnz : f.nnz < 2147483648
  neltvl : f.neltvl < 2147483648
  ptrfmt : f.ptrfmt.WF
  indfmt : f.indfmt.WF
  valfmt : f.valfmt.WF
  valfmt_len : f.valfmt.text.length ≤ 20
  ptr_n : 0 < f.ptrfmt.n
  ptr_line : f.ptrfmt.n * f.ptrfmt.w + f.trail.length ≤ 98
  ind_n : 0 < f.indfmt.n
  ind_line : f.indfmt.n * f.indfmt.w + f.trail.length ≤ 98
  val_n : 0 < f.valfmt.n
  val_line : f.valfmt.n * f.valfmt.w + f.trail.length ≤ 98
  colptr_len : f.colptr.length = f.ncol + 1
  rowind_len : f.rowind.length = f.nnz
  vals_len : f.vals.length = (if cplx then 2 else 1) * f.nnz
  colptr_fit : ∀ p ∈ f.colptr, p + 1 < 2147483648 ∧ (natDigits (p + 1)).length ≤ f.ptrfmt.w
  rowind_fit : ∀ i ∈ f.rowind, i + 1 < 2147483648 ∧ (natDigits (i + 1)).length ≤ f.indfmt.w
  vals_fit : ∀ v ∈ f.vals, v.WF ∧ v.text.length ≤ f.valfmt.w

/-- **`?readrb` returns exactly the matrix the file encodes** (header cards `(A72,A8)`, `(I14,3(1X,I13))`,
`(A3,11X,4(1X,I13))`, `(2A16,A20)`). -/
theorem readRB_writeRB (cplx : Bool) (f : RBFile) (h : f.WF cplx) :
    readRB cplx (writeRB f) =
      some { nrow := f.nrow, ncol := f.ncol, nnz := f.nnz,
             colptr := f.colptr.map (fun (p : Nat) => (p : Int)), rowind := f.rowind.map (fun (p : Nat) => (p : Int)),
             vals := if f.valcrd = 0 then none else some (f.vals.map Dec.value) } := by
  have hbody := readBody_written cplx f.nrow f.valcrd f.after h.trail h.ptr_n h.ptr_line h.ind_n h.ind_line
    h.val_n h.val_line h.colptr_len h.rowind_len h.vals_len h.colptr_fit h.rowind_fit h.vals_fit
  unfold writeRB
  simp only [List.append_assoc]
  unfold readRB
  have hl1 : f.title.length + f.trail.length ≤ 98 := Nat.add_le_add (Nat.le_of_eq h.title) h.trail_len
  have hl20 : 20 ≤ (card f.title f.trail).length := by
    simp [card, h.title]
    omega
  simp only [
    fgets_card f.title f.trail _ h.title_nl h.trail hl1,                              -- card 1
    cardInts_card (take14s_cons (fmtInt14_field h.totcrd) (take14s_cons (x13_field h.ptrcrd)
      (take14s_cons (x13_field h.indcrd) (take14s_one (x13_field h.valcrd))))) f.trail _ h.trail,  -- card 2
    line3_card h.mxtype h.pad11 (take14s_cons (x13_field h.nrow) (take14s_cons (x13_field h.ncol)
      (take14s_cons (x13_field h.nnz) (take14s_one (x13_field h.neltvl))))) f.trail _ h.trail,     -- card 3
    rbLine4_card (card f.title f.trail) f.ptrfmt f.indfmt f.valfmt f.trail _ hl20 h.ptrfmt h.indfmt h.valfmt
      h.valfmt_len h.trail,                                                          -- card 4
    List.getD_cons_succ, List.getD_cons_zero]
  exact hbody

/-- replacing `rhscrd` / `rhsline` preserves admissibility: no other clause mentions them. -/
theorem HBFile.WF.withRhs {f : HBFile} {cplx : Bool} (h : f.WF cplx) {c : Nat} {l : Str}
    (hc : c < 2147483648) (hl : NoNL l) : ({ f with rhscrd := c, rhsline := l } : HBFile).WF cplx :=
  { h with rhscrd := hc, rhsline := hl }

/-- **MXTYPE is never looked at**: two admissible files that differ only in the type field are read identically
(this is the part of the symmetric clause that holds). -/
theorem readHB_type_irrelevant (cplx : Bool) (f : HBFile) (ty : Str) (h : f.WF cplx) (hty : ty.length = 3) :
    readHB cplx (writeHB { f with mxtype := ty }) = readHB cplx (writeHB f) := by
  have h' : ({ f with mxtype := ty } : HBFile).WF cplx := { h with mxtype := hty }
  rw [readHB_writeHB cplx _ h', readHB_writeHB cplx f h]

/-- `0.4000E+01` -/
def symV1 : Dec := { neg := false, plus := false, ip := ['0'], fp := "4000".toList,
                     ex := some { letter := 'E', neg := false, plus := true, ds := "01".toList } }
/-- `-0.1000D+01` -/
def symV2 : Dec := { neg := true, plus := false, ip := ['0'], fp := "1000".toList,
                     ex := some { letter := 'D', neg := false, plus := true, ds := "01".toList } }
/-- `.5` -/
def symV3 : Dec := { neg := false, plus := false, ip := [], fp := "5".toList, ex := none }

/-- the 2×2 symmetric matrix [[4,-1],[-1,.5]] stored as its lower triangle, type RSA. -/
def symWitness : HBFile := {
  title := "2x2 symmetric witness".toList ++ blanks 51, key := "KEY     ".toList, trail := [],
  totcrd := 3, ptrcrd := 1, indcrd := 1, valcrd := 1, rhscrd := 0, mxtype := "RSA".toList, pad11 := blanks 11,
  nrow := 2, ncol := 2, nnz := 3, neltvl := 0,
  ptrfmt := { n := 3, w := 4 }, indfmt := { n := 3, w := 4 }, valfmt := { n := 3, w := 12, rest := ".4)".toList },
  rhsfmt := blanks 20, rhsline := [], colptr := [0, 2, 3], rowind := [0, 1, 1],
  vals := [symV1, symV2, symV3],
  after := [] }

theorem symWitness_wf : symWitness.WF false := by
  unfold symWitness symV1 symV2 symV3
  repeat rw [String.toList_ofList]
  constructor <;> decide +kernel

/-- what `?readhb` returns for the witness: the stored triangle, 3 entries. -/
theorem symWitness_read :
    readHB false (writeHB symWitness) =
      some { nrow := 2, ncol := 2, nnz := 3, colptr := [0, 2, 3], rowind := [0, 1, 1],
             vals := some [(4000, -3), (-1000, -3), (5, -1)] } := by
  rw [readHB_writeHB false symWitness symWitness_wf]
  decide +kernel

/-- `(i,j)` is a stored entry of the column-compressed result. -/
def Mat.hasEntry (m : Mat) (i j : Int) : Bool :=
  (List.range m.rowind.length).any fun k =>
    decide (m.colptr.getD j.toNat 0 ≤ (k : Int)) && decide ((k : Int) < m.colptr.getD (j.toNat + 1) 0) &&
      (m.rowind.getD k (-1) == i)

/-- The property's clause "symmetric files expanded", stated for the HB reader. -/
def SymmetricExpansion : Prop :=
  ∀ (f : HBFile), f.WF false → f.mxtype = "RSA".toList →
    ∀ m, readHB false (writeHB f) = some m → ∀ i j, m.hasEntry i j = true → m.hasEntry j i = true

/-- **FAILS on the unchanged code** (finding `symmetric-not-expanded`): the readers contain no expansion; the 2×2
witness is returned with entry (1,0) but without entry (0,1). -/
theorem symmetric_expansion_fails : ¬ SymmetricExpansion := by
  intro h
  have := h symWitness symWitness_wf rfl _ symWitness_read 1 0 (by decide)
  revert this
  decide

/-- the same file with a right-hand-side header card (RHSCRD = 1), which `?readhb` skips unread. -/
def symWitnessRhs : HBFile :=
  { symWitness with rhscrd := 1, rhsline := "F                          1             0".toList }

theorem symWitnessRhs_wf : symWitnessRhs.WF false := by
  refine symWitness_wf.withRhs (by decide) ?_
  rw [String.toList_ofList]
  decide +kernel

example : readHB false (writeHB symWitnessRhs) = readHB false (writeHB symWitness) :=
  (readHB_writeHB false symWitnessRhs symWitnessRhs_wf).trans (readHB_writeHB false symWitness symWitness_wf).symm

/-- a Rutherford-Boeing file with the same stored arrays (type `rua`). -/
def rbWitness : RBFile := {
  title := "2x2 witness, Rutherford-Boeing".toList ++ blanks 50, trail := [],
  totcrd := 3, ptrcrd := 1, indcrd := 1, valcrd := 1, mxtype := "rua".toList, pad11 := blanks 11,
  nrow := 2, ncol := 2, nnz := 3, neltvl := 0,
  ptrfmt := symWitness.ptrfmt, indfmt := symWitness.indfmt, valfmt := symWitness.valfmt,
  colptr := [0, 2, 3], rowind := [0, 1, 1], vals := [symV1, symV2, symV3], after := [] }

theorem rbWitness_wf : rbWitness.WF false := by
  unfold rbWitness symV1 symV2 symV3
  repeat rw [String.toList_ofList]
  constructor <;> decide +kernel

example : readRB false (writeRB rbWitness) =
    some { nrow := 2, ncol := 2, nnz := 3, colptr := [0, 2, 3], rowind := [0, 1, 1],
           vals := some [(4000, -3), (-1000, -3), (5, -1)] } := by
  rw [readRB_writeRB false rbWitness rbWitness_wf]
  decide +kernel

/-- `count`: `?readmt` stores entry `lasta` only while `lasta < nnz`, and the final `lasta` is the last column
pointer. -/
structure MTFile.WF (cplx : Bool) (f : MTFile) : Prop where
  title : NoNL f.title
  title_len : f.title.length < 80
  pre : WsAll f.pre
  nrow : f.nrow < 2147483648
  sep1 : WsAll f.sep1 ∧ f.sep1 ≠ []
  ncol : f.cols.length < 2147483648
  sep2 : WsAll f.sep2 ∧ f.sep2 ≠ []
  nnz : f.nnz < 2147483648
  post : WsAll f.post ∧ f.post ≠ []
  count : f.nnz = mtCount f.cols
  cols : ∀ c ∈ f.cols, c.WF cplx

/-- **`?readmt` returns exactly the matrix the file encodes**: title line, `nrow ncol nnz`, then per column its
count and `index value` pairs (`index re im` for complex), tokens separated by arbitrary white space, 1-based row
indices, values printed as decimals with `E`/`e` exponents. -/
theorem readMT_writeMT (cplx : Bool) (f : MTFile) (h : f.WF cplx) :
    readMT cplx (writeMT cplx f) =
      some { nrow := f.nrow, ncol := f.cols.length, nnz := f.nnz,
             colptr := mtColptr 0 f.cols, rowind := mtRows f.cols, vals := some (mtVals cplx f.cols) } := by
  obtain ⟨ptr, hp1, hp2⟩ := mtCols_written cplx (f.nnz : Int) f.cols 0 f.after
    (f.post ++ ((f.cols.map (MTCol.text cplx)).flatten ++ f.after)) h.cols
    (by rw [h.count]; simp) (skipSpace_ws h.post.1 _)
  unfold readMT writeMT
  simp only [mtTitle_line h.title h.title_len,
    scanInt_digits h.pre h.nrow (wsHead_append h.sep1).noDig,
    scanInt_digits h.sep1.1 h.ncol (wsHead_append h.sep2).noDig,
    scanInt_digits h.sep2.1 h.nnz (wsHead_append h.post).noDig, Option.bind_some, bind]
  rw [if_neg (by omega)]
  simp only [Int.toNat_natCast]
  rw [show (0 : Int) = ((0 : Nat) : Int) from rfl, hp1]
  simp only [Option.bind_some]
  rw [hp2]

def mtV1 : Dec := { neg := false, plus := false, ip := ['4'], fp := [], ex := none }
def mtV2 : Dec := { neg := true, plus := false, ip := ['1'], fp := ['5'],
                    ex := some { letter := 'e', neg := true, plus := false, ds := ['1'] } }
def mtV3 : Dec := { neg := false, plus := false, ip := [], fp := ['5'], ex := none }

/-- the 2×2 matrix [[4, 0], [-0.15, .5]] in the text form. -/
def mtWitness : MTFile := { title := "2x2 witness".toList, nrow := 2, nnz := 3, cols := [
  { entries := [ { row := 0, re := mtV1 }, { row := 1, re := mtV2 } ] },
  { entries := [ { row := 1, re := mtV3 } ] } ] }

theorem mtWitness_wf : mtWitness.WF false := by
  unfold mtWitness
  rw [String.toList_ofList]
  constructor <;> decide +kernel

example : readMT false (writeMT false mtWitness) =
    some { nrow := 2, ncol := 2, nnz := 3, colptr := [0, 2, 3], rowind := [0, 1, 1],
           vals := some [(4, 0), (-15, -2), (5, -1)] } := by
  rw [readMT_writeMT false mtWitness mtWitness_wf]
  rfl

end Slu.Read
