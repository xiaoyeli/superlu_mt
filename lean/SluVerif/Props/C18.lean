/-
C18 — calls are independent of what was factored before: the allocator's file-static state (whichspace, stack).
The other persistent state (the static GlobalLU_t per precision, the expander table, ?lacon's statics) is covered by the
fresh-process differential only.
-/
import SluVerif.Model.UserStack
namespace Slu

/-- in system mode the worker operations neither read nor change the stack descriptor -/
theorem ustep_system (K : UParams) (u : UState) (op : UOp) (hm : u.mode = .system) (hw : workerOp op = true) :
    (ustep K u op).1 = u ∧ (ustep K u op).2 = (match op with | .wi _ _ => UOut.sysWork | _ => UOut.unit) := by
  cases op with
  | wi n w => simp only [ustep, hm, and_self]
  | wf => simp only [ustep, hm, and_self]
  | mh _ | mt _ | fh _ | ft _ | probe => cases hw

theorem urun_system (K : UParams) (ops : List UOp) (hw : ∀ op ∈ ops, workerOp op = true) :
    ∀ u u' : UState, u.mode = .system → u'.mode = .system → urun K u ops = urun K u' ops := by
  induction ops with
  | nil => intros; rfl
  | cons op ops ih =>
    intro u u' hm hm'
    have h1 := ustep_system K u op hm (hw op (List.mem_cons_self))
    have h2 := ustep_system K u' op hm' (hw op (List.mem_cons_self))
    unfold urun
    simp only
    rw [h1.1, h2.1, h1.2, h2.2]
    congr 1
    exact ih (fun o ho => hw o (List.mem_cons_of_mem _ ho)) u u' hm hm'

/-- A first-time call does not see what earlier calls left in the allocator's file-static state: after
`p?gstrf_SetupSpace(work, lwork)`, `lwork ≥ 0`, the outputs of every operation sequence of the factorization are the
same whatever `old`, `old'` were (a caller buffer resets every field; without one the stale descriptor is never
consulted). -/
theorem fresh_call_independent (K : UParams) (old old' : UState) (lwork : Int) (h : 0 ≤ lwork) (ops : List UOp)
    (hops : lwork = 0 → ∀ op ∈ ops, workerOp op = true) :
    urun K (setupSpace old lwork) ops = urun K (setupSpace old' lwork) ops := by
  by_cases h0 : lwork = 0
  · apply urun_system K ops (hops h0) <;> simp [setupSpace, h0]
  · have hp : lwork > 0 := by omega
    have e : setupSpace old lwork = setupSpace old' lwork := by simp [setupSpace, h0, hp]
    rw [e]

/-- a `SetupSpace` that does not re-establish SYSTEM for `lwork = 0` is history dependent: after a call with a caller
buffer the next call without one allocates from that buffer -/
def setupSpaceStale (old : UState) (lwork : Int) : UState :=
  if lwork > 0 then { mode := .user, st := UStack.setup lwork } else old

example : let K : UParams := { iword := 4, dword := 8, maxsuper := 4, rowblk := 4, base8 := 0 }
    urun K (setupSpaceStale (setupSpaceStale ⟨.system, UStack.setup 0⟩ 100000) 0) [.wi 5 1] ≠
    urun K (setupSpaceStale ⟨.system, UStack.setup 0⟩ 0) [.wi 5 1] := by decide

end Slu
