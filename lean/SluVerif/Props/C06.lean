/-
C06 — singular matrices are reported through `info`.  Model level, all sizes and values: `info` is 0 iff every pivot
`U(t,t)` is nonzero and otherwise 1 + the first column whose pivot is zero; a column step reports singular iff all its
candidate values are exactly zero; combining per-thread minima gives the same `info` for every split of the columns.
(The factorization completes for singular input: Props/LU.lean.  The `nsupr = nsupc` read past the row list is
`pivot_outOfRange_iff`.)
-/
import SluVerif.Props.LU

namespace Slu

theorem info_zero_iff (P : LUParams) (usepr : Bool) :
    (factor P usepr).info = 0 ↔ ∀ j, j < P.n → getQ (factor P usepr).uu j j ≠ 0 := by
  obtain ⟨inv, hk⟩ := luInv_factor P usepr
  constructor
  · intro h j hj
    exact inv.info_ok h j (hk ▸ hj)
  · intro h
    by_contra hne
    obtain ⟨m, hm⟩ := Nat.exists_eq_succ_of_ne_zero hne
    obtain ⟨b1, b2, -⟩ := inv.info_bad m hm
    exact h m (hk ▸ b1) b2

theorem info_first_zero_pivot (P : LUParams) (usepr : Bool) (m : Nat) (h : (factor P usepr).info = m + 1) :
    m < P.n ∧ getQ (factor P usepr).uu m m = 0 ∧ ∀ j, j < m → getQ (factor P usepr).uu j j ≠ 0 := by
  obtain ⟨inv, hk⟩ := luInv_factor P usepr
  obtain ⟨b1, b2, b3⟩ := inv.info_bad m h
  exact ⟨hk ▸ b1, b2, b3⟩

theorem info_range (P : LUParams) (usepr : Bool) : (factor P usepr).info ≤ P.n := by
  by_cases h : (factor P usepr).info = 0
  · omega
  · obtain ⟨m, hm⟩ := Nat.exists_eq_succ_of_ne_zero h
    have := (info_first_zero_pivot P usepr m hm).1
    omega

theorem step_singular_iff (P : LUParams) (st : LUState) :
    (stepSel P st).info ≠ 0 ↔ ∀ i, i ∈ candRows P st → stepC P st i = 0 := by
  constructor
  · intro h i hi
    exact stepC_all_zero P st h i hi
  · intro h
    rw [stepSel, pivot_singular_iff _ pivIn_magsNonneg]
    intro idx hidx
    have hlt := pivIn_cand.1 hidx
    rw [pivIn_mag hlt, qabs_eq_zero]
    exact h _ (list_getD_mem hlt)

/-! Each worker keeps the smallest singular column (+1) among the columns it factored; `thread_finalize` takes the
minimum over workers, ignoring 0 = "none". -/

/-- one step of that minimum, the tests in the order of pdgstrf_thread_finalize.c:108-110:
`if (threadarg[i].info) { if (iinfo) iinfo = MIN(iinfo, …); else iinfo = …; }` -/
def cmb (a x : Nat) : Nat := if x = 0 then a else if a = 0 then x else min a x

def combineInfo (xs : List Nat) : Nat := xs.foldl cmb 0

theorem cmb_zero_left (x : Nat) : cmb 0 x = x := by
  unfold cmb
  split
  · next h => exact h.symm
  · rfl
theorem cmb_zero_right (a : Nat) : cmb a 0 = a := if_pos rfl
theorem cmb_of_ne {a x : Nat} (ha : a ≠ 0) (hx : x ≠ 0) : cmb a x = min a x := by rw [cmb, if_neg hx, if_neg ha]
theorem cmb_comm (a b : Nat) : cmb a b = cmb b a := by
  rcases Nat.eq_zero_or_pos a with rfl | ha
  · rw [cmb_zero_left, cmb_zero_right]
  rcases Nat.eq_zero_or_pos b with rfl | hb
  · rw [cmb_zero_left, cmb_zero_right]
  rw [cmb_of_ne (Nat.ne_of_gt ha) (Nat.ne_of_gt hb), cmb_of_ne (Nat.ne_of_gt hb) (Nat.ne_of_gt ha), Nat.min_comm]
theorem cmb_assoc (a b c : Nat) : cmb (cmb a b) c = cmb a (cmb b c) := by
  rcases Nat.eq_zero_or_pos a with rfl | ha
  · rw [cmb_zero_left, cmb_zero_left]
  rcases Nat.eq_zero_or_pos b with rfl | hb
  · rw [cmb_zero_right, cmb_zero_left]
  rcases Nat.eq_zero_or_pos c with rfl | hc
  · rw [cmb_zero_right, cmb_zero_right]
  -- all three nonzero: `cmb` is `min`, and the minima are nonzero again
  have ha' := Nat.ne_of_gt ha
  have hb' := Nat.ne_of_gt hb
  have hc' := Nat.ne_of_gt hc
  have hab : min a b ≠ 0 := by omega
  have hbc : min b c ≠ 0 := by omega
  rw [cmb_of_ne ha' hb', cmb_of_ne hb' hc', cmb_of_ne hab hc', cmb_of_ne ha' hbc, Nat.min_assoc]

theorem info_combine_order_free (xs ys : List Nat) (h : xs.Perm ys) : combineInfo xs = combineInfo ys :=
  haveI : RightCommutative cmb := ⟨fun a x y => by rw [cmb_assoc, cmb_assoc, cmb_comm x y]⟩
  h.foldl_eq 0

theorem info_combine_split (xs ys : List Nat) :
    combineInfo [combineInfo xs, combineInfo ys] = combineInfo (xs ++ ys) := by
  -- `cmb` is associative with unit 0: folding `ys` from `X` is `cmb X (ys folded from 0)`
  have : Std.Associative cmb := ⟨cmb_assoc⟩
  unfold combineInfo
  rw [List.foldl_append, List.foldl_cons, List.foldl_cons, List.foldl_nil, cmb_zero_left,
    ← List.foldl_assoc (op := cmb), cmb_zero_right]

theorem cmb_spec (a x : Nat) : (cmb a x = 0 ↔ a = 0 ∧ x = 0) ∧ (cmb a x = a ∨ cmb a x = x) ∧
    (a ≠ 0 → cmb a x ≤ a) ∧ (x ≠ 0 → cmb a x ≤ x) := by
  rcases Nat.eq_zero_or_pos a with rfl | ha
  · rw [cmb_zero_left]
    exact ⟨⟨fun h => ⟨rfl, h⟩, fun h => h.2⟩,
      .inr rfl,
      fun h => absurd rfl h,
      fun _ => le_refl _⟩
  rcases Nat.eq_zero_or_pos x with rfl | hx
  · rw [cmb_zero_right]
    exact ⟨⟨fun h => ⟨h, rfl⟩, fun h => h.1⟩,
      .inl rfl,
      fun _ => le_refl _,
      fun h => absurd rfl h⟩
  rw [cmb_of_ne (Nat.ne_of_gt ha) (Nat.ne_of_gt hx)]
  exact ⟨by omega,
    by omega,
    fun _ => Nat.min_le_left _ _,
    fun _ => Nat.min_le_right _ _⟩

theorem combineInfo_spec (xs : List Nat) :
    (combineInfo xs = 0 ↔ ∀ x ∈ xs, x = 0) ∧
    (combineInfo xs ≠ 0 → combineInfo xs ∈ xs ∧ ∀ x ∈ xs, x ≠ 0 → combineInfo xs ≤ x) := by
  induction xs using List.reverseRecOn with
  | nil => exact ⟨⟨fun _ _ h => (nomatch h), fun _ => rfl⟩, fun h => absurd rfl h⟩
  | append_singleton xs x ih =>
    obtain ⟨ih1, ih2⟩ := ih
    have hstep : combineInfo (xs ++ [x]) = cmb (combineInfo xs) x := List.foldl_concat ..
    rw [hstep]
    generalize combineInfo xs = F at ih1 ih2 ⊢
    obtain ⟨c0, cm, cF, cx⟩ := cmb_spec F x
    simp only [List.mem_append, List.mem_singleton]
    refine ⟨?_, fun hne => ⟨?_, fun y hy hy0 => ?_⟩⟩
    · rw [c0, ih1]
      exact ⟨fun h y hy => hy.elim (h.1 y) fun e => e ▸ h.2,
        fun h => ⟨fun y hy => h y (.inl hy), h x (.inr rfl)⟩⟩
    · rcases cm with e | e
      · rw [e] at hne ⊢
        exact .inl (ih2 hne).1
      · exact .inr e
    · rcases hy with hy | rfl
      · have hF : F ≠ 0 := fun h => hy0 (ih1.1 h y hy)
        exact le_trans (cF hF) ((ih2 hF).2 y hy hy0)
      · exact cx hy0

def exSing : LUParams :=
  { n := 3, A := #[#[1, 2, 3], #[2, 4, 6], #[1, 1, 1]], u := 1, diagOf := fun j => j, oldInv := fun _ => 0 }

example : (factor exSing false).info = 3 := by decide +kernel
example : combineInfo [0, 5, 0, 3, 7] = 3 := by decide

end Slu
