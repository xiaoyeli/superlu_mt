/- C05 — allocator arithmetic (Model/Alloc.lean): the preset slots tile `[0, total)` (`slots_tile`); per-slot bump
   allocation, unchecked in the C code, stays inside the slot exactly when the requests sum to at most its capacity
   (`bump_in_slot`, `bump_overruns`); the checked allocator aborts or stays inside the array (`bumpChecked_safe`).
   That the capacities from the Householder counts dominate what any pivot sequence requests (George–Ng) is monitored
   per run, not proved. -/
import SluVerif.Model.Alloc
import SluVerif.Proofs.ListLemmas
import Mathlib.Tactic.Linarith

namespace Slu

theorem slotStarts_length (caps : List Nat) (b : Nat) : (slotStarts caps b).length = caps.length := by
  induction caps generalizing b with
  | nil => rfl
  | cons c cs ih => simp [slotStarts, ih]

theorem slotStarts_getD (caps : List Nat) (b k : Nat) (hk : k < caps.length) :
    (slotStarts caps b).getD k 0 = b + (caps.take k).sum := by
  induction caps generalizing b k with
  | nil => cases hk
  | cons c cs ih =>
    cases k with
    | zero => rfl
    | succ k =>
      rw [slotStarts, List.getD_cons_succ, ih (b + c) k (Nat.lt_of_succ_lt_succ hk), List.take_succ_cons, List.sum_cons,
        Nat.add_assoc]

theorem slots_tile (caps : List Nat) (b : Nat) (k : Nat) (hk : k < caps.length) :
    (slotStarts caps b).getD k 0 = b + (caps.take k).sum ∧
    (k + 1 < caps.length → (slotStarts caps b).getD (k + 1) 0 = (slotStarts caps b).getD k 0 + caps.getD k 0) ∧
    (slotStarts caps b).getD k 0 + caps.getD k 0 ≤ b + totalCap caps := by
  have hs := slotStarts_getD caps b k hk
  have h1 := sum_take_succ caps k hk
  refine ⟨hs, fun h => ?_, ?_⟩
  · rw [slotStarts_getD caps b (k + 1) h, hs, h1, Nat.add_assoc]
  · have := sum_take_mono caps hk
    rw [List.take_length] at this
    rw [hs, Nat.add_assoc, ← h1]
    exact Nat.add_le_add_left this b

theorem slots_disjoint (caps : List Nat) (b : Nat) (i j : Nat) (hij : i < j) (hj : j < caps.length) :
    (slotStarts caps b).getD i 0 + caps.getD i 0 ≤ (slotStarts caps b).getD j 0 := by
  have hi := Nat.lt_trans hij hj
  rw [slotStarts_getD caps b i hi, slotStarts_getD caps b j hj, Nat.add_assoc, ← sum_take_succ caps i hi]
  exact Nat.add_le_add_left (sum_take_mono caps hij) b

theorem bump_in_slot (reqs : List Nat) (start : Nat) (e : Nat × Nat) (he : e ∈ bumpExtents reqs start) :
    start ≤ e.1 ∧ e.1 + e.2 ≤ start + reqs.sum := by
  induction reqs generalizing start with
  | nil => simp [bumpExtents] at he
  | cons r rs ih =>
    rw [List.sum_cons]
    rcases List.mem_cons.1 he with rfl | h
    · exact ⟨Nat.le_refl _, Nat.add_le_add_left (Nat.le_add_right r _) start⟩
    · have := ih (start + r) h
      omega

theorem bump_stays_in_capacity (reqs : List Nat) (start cap : Nat) (h : reqs.sum ≤ cap)
    (e : Nat × Nat) (he : e ∈ bumpExtents reqs start) : start ≤ e.1 ∧ e.1 + e.2 ≤ start + cap := by
  have := bump_in_slot reqs start e he; omega

theorem bump_overruns (reqs : List Nat) (start cap : Nat) (h : cap < reqs.sum) :
    ∃ e ∈ bumpExtents reqs start, start + cap < e.1 + e.2 := by
  induction reqs generalizing start cap with
  | nil => simp at h
  | cons r rs ih =>
    simp only [List.sum_cons] at h
    by_cases hr : cap < r
    · exact ⟨(start, r), List.mem_cons_self, Nat.add_lt_add_left hr start⟩
    · have hc : cap - r < rs.sum := by omega
      obtain ⟨e, he, hlt⟩ := ih (start + r) (cap - r) hc
      exact ⟨e, List.mem_cons_of_mem _ he, by omega⟩

theorem bump_disjoint (reqs : List Nat) (start : Nat) :
    (bumpExtents reqs start).Pairwise (fun a b => a.1 + a.2 ≤ b.1) := by
  induction reqs generalizing start with
  | nil => simp [bumpExtents]
  | cons r rs ih =>
    simp only [bumpExtents, List.pairwise_cons]
    refine ⟨?_, ih (start + r)⟩
    intro b hb
    exact (bump_in_slot rs (start + r) b hb).1

theorem bumpChecked_safe (next num maxLen : Nat) (e : Nat × Nat) (h : bumpChecked next num maxLen = some e) :
    e.1 = next ∧ e.2 = next + num ∧ e.2 ≤ maxLen := by
  unfold bumpChecked at h
  split at h
  · cases h
  · cases h
    exact ⟨rfl, rfl, by omega⟩

theorem bumpChecked_aborts_iff (next num maxLen : Nat) : bumpChecked next num maxLen = none ↔ maxLen < next + num := by
  unfold bumpChecked
  split
  · next h => exact ⟨fun _ => h, fun _ => rfl⟩
  · next h => exact ⟨nofun, fun h' => absurd h' h⟩

example : slotStarts [6, 4, 10] 0 = [0, 6, 10] ∧ bumpExtents [2, 3] 6 = [(6, 2), (8, 3)] := by decide

end Slu
