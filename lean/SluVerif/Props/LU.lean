/-
Exact LU identity of the dense model (shared by C01, C02, C06, C08, C16): for every size, rational matrix, threshold and
reuse flag `factor` returns a row order that is a bijection of 0..n-1 and `A(i,j) = Σ_t ell(i,t)·uu(t,j)`, i.e.
`Pr·A·Pc = L·U` with `L(perm_r i, t) = ell i t` (A = the column-permuted matrix), L unit lower and U upper triangular
in the pivoted row order — for singular inputs too (the library also completes the factorization then).
-/
import SluVerif.Proofs.LUInv
import SluVerif.Model.Perm

namespace Slu

theorem factor_identity (P : LUParams) (usepr : Bool) (i j : Nat) (hi : i < P.n) (hj : j < P.n) :
    getQ P.A i j = sumQ P.n (fun t => getQ (factor P usepr).ell i t * getQ (factor P usepr).uu t j) := by
  obtain ⟨inv, hk⟩ := luInv_factor P usepr
  exact inv.col_id i j hi (hk ▸ hj)

/-- row `t'` of `Pr·A` is row `piv t'` of `A` -/
theorem factor_identity_permuted (P : LUParams) (usepr : Bool) (t' j : Nat) (ht : t' < P.n) (hj : j < P.n) :
    getQ P.A ((factor P usepr).piv.getD t' 0) j =
      sumQ P.n (fun t => getQ (factor P usepr).ell ((factor P usepr).piv.getD t' 0) t * getQ (factor P usepr).uu t j) := by
  obtain ⟨inv, hk⟩ := luInv_factor P usepr
  exact factor_identity P usepr _ j (inv.pos_piv t' (hk ▸ ht)).1 hj

theorem factor_unit_lower (P : LUParams) (usepr : Bool) (t : Nat) (ht : t < P.n) :
    getQ (factor P usepr).ell ((factor P usepr).piv.getD t 0) t = 1 ∧
    ∀ s, t < s → s < P.n → getQ (factor P usepr).ell ((factor P usepr).piv.getD t 0) s = 0 := by
  obtain ⟨inv, hk⟩ := luInv_factor P usepr
  exact ⟨inv.ell_one t (hk ▸ ht), fun s => inv.ell_zero t s (hk ▸ ht)⟩

theorem factor_upper (P : LUParams) (usepr : Bool) (t j : Nat) (hjt : j < t) (ht : t < P.n) :
    getQ (factor P usepr).uu t j = 0 := by
  obtain ⟨inv, hk⟩ := luInv_factor P usepr
  exact inv.uu_upper t j (hk ▸ Nat.lt_trans hjt ht) hjt ht

theorem LUInv.all_pivoted {P : LUParams} {st : LUState} (inv : LUInv P st) (hk : st.k = P.n) (i : Nat) (hi : i < P.n) :
    ∃ t, t < P.n ∧ posOf st i = some t ∧ st.piv.getD t 0 = i := by
  -- no candidate row is left after `n` steps
  have hnil : candRows P st = [] := List.eq_nil_of_length_eq_zero (inv.cands_len.trans (hk ▸ Nat.sub_self _))
  cases hp : posOf st i with
  | none => exact absurd ((mem_candRows _ _ _).2 ⟨hi, hp⟩) (hnil ▸ List.not_mem_nil)
  | some t =>
    obtain ⟨h1, h2⟩ := inv.pos_inv i t hp
    exact ⟨t, hk ▸ h1, rfl, h2⟩

theorem factor_bijection (P : LUParams) (usepr : Bool) :
    (∀ t, t < P.n → (factor P usepr).piv.getD t 0 < P.n ∧ posOf (factor P usepr) ((factor P usepr).piv.getD t 0) = some t) ∧
    (∀ i, i < P.n → ∃ t, t < P.n ∧ posOf (factor P usepr) i = some t ∧ (factor P usepr).piv.getD t 0 = i) := by
  obtain ⟨inv, hk⟩ := luInv_factor P usepr
  exact ⟨fun t ht => inv.pos_piv t (hk ▸ ht), inv.all_pivoted hk⟩

theorem factor_permR_isPerm (P : LUParams) (usepr : Bool) : IsPerm P.n (permROf P.n (factor P usepr)) := by
  obtain ⟨_, hsurj⟩ := factor_bijection P usepr
  unfold IsPerm permROf
  refine ⟨by rw [Array.size_map, Array.size_range], ?_, ?_⟩
  · intro v hv
    simp only [Array.toList_map, Array.toList_range, List.mem_map, List.mem_range] at hv
    obtain ⟨i, hi, rfl⟩ := hv
    obtain ⟨t, ht, hp, _⟩ := hsurj i hi
    rw [hp]
    simp only
    exact ⟨by omega, by exact_mod_cast ht⟩
  · simp only [Array.toList_map, Array.toList_range]
    refine (List.nodup_map_iff_inj_on List.nodup_range).2 ?_
    intro i hi i' hi' heq
    rw [List.mem_range] at hi hi'
    obtain ⟨t, _, hp, hpiv⟩ := hsurj i hi
    obtain ⟨t', _, hp', hpiv'⟩ := hsurj i' hi'
    rw [hp, hp'] at heq
    simp only at heq
    have : t = t' := by exact_mod_cast heq
    subst this
    rw [← hpiv, ← hpiv']

end Slu
