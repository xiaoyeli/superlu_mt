/-
C08 — call histories (`H…`) at the model level.  State: the values and factors of the last factor call.  Ops: (re)factor
with new values / threshold / pivot-reuse request, and solve.  After every op of every finite history the stored factors
are an exact factorization of the values current at the last factor op, with a valid row permutation, whatever the
earlier pivots, thresholds and reuse flags (`hist_correct`).  That solves leave the state alone (`solve_readonly`) is
how `hstep` is defined, not a result about `?gstrs`.  Pivot reuse itself is `pivot_usepr_kept` (Props/C02.lean).
-/
import SluVerif.Props.LU

namespace Slu

inductive HOp where
  | factor (A : QArr) (u : Rat) (usepr : Bool)     -- values current at this call
  | solve

structure HState where
  n : Nat
  diagOf : Nat → Int
  cur : Option (LUParams × LUState)

/-- previous row order as `inv_perm_r` (`piv t` is the row pivoted at step `t`: the inverse of `perm_r`), handed to the
next factorization when reuse is requested -/
def oldInvOf (s : HState) : Nat → Int := fun j =>
  match s.cur with
  | some (_, st) => (st.piv.getD j 0 : Int)
  | none => 0

def hstep (s : HState) : HOp → HState
  | .factor A u usepr =>
    let P : LUParams := { n := s.n, A := A, u := u, diagOf := s.diagOf, oldInv := oldInvOf s }
    { s with cur := some (P, factor P usepr) }
  | .solve => s

def hrun (s : HState) (ops : List HOp) : HState := ops.foldl hstep s

/-- the stored factors, if any, multiply to the stored values (as in `factor_identity`), with a valid row permutation -/
def HGood (s : HState) : Prop :=
  ∀ P st, s.cur = some (P, st) → P.n = s.n ∧
    (∀ i j, i < P.n → j < P.n → getQ P.A i j = sumQ P.n (fun t => getQ st.ell i t * getQ st.uu t j)) ∧
    IsPerm P.n (permROf P.n st)

theorem hstep_good (s : HState) (op : HOp) (h : HGood s) : HGood (hstep s op) := by
  cases op with
  | solve => exact h
  | factor A u usepr =>
    intro P st hc
    obtain ⟨rfl, rfl⟩ := hc
    exact ⟨rfl, fun i j hi hj => factor_identity _ usepr i j hi hj, factor_permR_isPerm _ usepr⟩

theorem hist_correct (s : HState) (ops : List HOp) (h : HGood s) : HGood (hrun s ops) := by
  induction ops generalizing s with
  | nil => exact h
  | cons op ops ih => exact ih (hstep s op) (hstep_good s op h)

theorem hist_correct_from_empty (n : Nat) (diagOf : Nat → Int) (ops : List HOp) :
    HGood (hrun { n := n, diagOf := diagOf, cur := none } ops) :=
  hist_correct _ ops fun P st hc => nomatch hc

theorem solve_readonly (s : HState) : hstep s .solve = s := rfl

theorem factor_uses_current_values (s : HState) (A : QArr) (u : Rat) (usepr : Bool) :
    ∃ P st, (hstep s (.factor A u usepr)).cur = some (P, st) ∧ P.A = A ∧ st = factor P usepr :=
  ⟨_, _, rfl, rfl, rfl⟩

example : HGood (hrun { n := 2, diagOf := fun j => j, cur := none }
    [.factor #[#[2, 1], #[4, 5]] 1 false, .solve, .factor #[#[1, 3], #[2, 1]] (1/2) true]) :=
  hist_correct_from_empty _ _ _

end Slu
