/-
What the embedded complex judge implies, entry by entry; the converse is not proved.
-/
import SluVerif.Props.Checkers
import SluVerif.Model.CheckC
import Mathlib.Algebra.BigOperators.Group.Finset.Basic

namespace Slu

/-! `sumTo n f` is `∑ k ∈ Finset.range n, f k` by definition: Mathlib's lemmas apply as they stand. -/

theorem sumTo_congr {n : Nat} {f g : Nat → Int} (h : ∀ k, k < n → f k = g k) : sumTo n f = sumTo n g :=
  Finset.sum_congr rfl fun k hk => h k (Finset.mem_range.1 hk)

theorem sumTo_two (n : Nat) (f : Nat → Int) : sumTo (2 * n) f = sumTo n f + sumTo n (fun k => f (n + k)) := by
  rw [two_mul]
  exact Finset.sum_range_add f n n

theorem sumTo_add (n : Nat) (f g : Nat → Int) : sumTo n (fun k => f k + g k) = sumTo n f + sumTo n g :=
  Finset.sum_add_distrib (s := Finset.range n)

theorem sumTo_sub (n : Nat) (f g : Nat → Int) : sumTo n (fun k => f k - g k) = sumTo n f - sumTo n g :=
  Finset.sum_sub_distrib (s := Finset.range n) f g

theorem sumTo_neg (n : Nat) (f : Nat → Int) : sumTo n (fun k => -f k) = - sumTo n f :=
  Finset.sum_neg_distrib (s := Finset.range n) f

theorem iabs_neg (x : Int) : iabs (-x) = iabs x := by simp [iabs]

theorem embedM_ul {n : Nat} {R I : Mat} {i k : Nat} (hi : i < n) (hk : k < n) : embedM n R I i k = R i k := by
  rw [embedM, if_pos hi, if_pos hk]
theorem embedM_ur {n : Nat} {R I : Mat} {i : Nat} (k : Nat) (hi : i < n) : embedM n R I i (n + k) = -I i k := by
  rw [embedM, if_pos hi, if_neg (Nat.not_lt.2 (Nat.le_add_right n k)), Nat.add_sub_cancel_left]
theorem embedM_ll {n : Nat} {R I : Mat} {k : Nat} (i : Nat) (hk : k < n) : embedM n R I (n + i) k = I i k := by
  rw [embedM, if_neg (Nat.not_lt.2 (Nat.le_add_right n i)), if_pos hk, Nat.add_sub_cancel_left]
theorem embedM_lr (n : Nat) (R I : Mat) (i k : Nat) : embedM n R I (n + i) (n + k) = R i k := by
  rw [embedM, if_neg (Nat.not_lt.2 (Nat.le_add_right n i)), if_neg (Nat.not_lt.2 (Nat.le_add_right n k)),
    Nat.add_sub_cancel_left, Nat.add_sub_cancel_left]

theorem embedP_lo {n : Nat} {p : Nat → Nat} {i : Nat} (hi : i < n) : embedP n p i = p i := if_pos hi
theorem embedP_hi (n : Nat) (p : Nat → Nat) (i : Nat) : embedP n p (n + i) = n + p i := by
  rw [embedP, if_neg (Nat.not_lt.2 (Nat.le_add_right n i)), Nat.add_sub_cancel_left]

/-- the upper-left block of the product holds the real parts, the lower-left block the imaginary parts -/
theorem embed_mul_re (n : Nat) (Lr Li Ur Ui : Mat) (i j : Nat) (hi : i < n) (hj : j < n) :
    mulEntry (2 * n) (embedM n Lr Li) (embedM n Ur Ui) i j = mulEntry n Lr Ur i j - mulEntry n Li Ui i j := by
  unfold mulEntry
  rw [sumTo_two, sub_eq_add_neg, ← sumTo_neg]
  refine congrArg₂ _ (sumTo_congr fun k hk => ?_) (sumTo_congr fun k _ => ?_)
  · rw [embedM_ul hi hk, embedM_ul hk hj]
  · rw [embedM_ur k hi, embedM_ll k hj, neg_mul]

theorem embed_mul_im (n : Nat) (Lr Li Ur Ui : Mat) (i j : Nat) (hj : j < n) :
    mulEntry (2 * n) (embedM n Lr Li) (embedM n Ur Ui) (n + i) j = mulEntry n Li Ur i j + mulEntry n Lr Ui i j := by
  unfold mulEntry
  rw [sumTo_two]
  refine congrArg₂ _ (sumTo_congr fun k hk => ?_) (sumTo_congr fun k _ => ?_)
  · rw [embedM_ll i hk, embedM_ul hk hj]
  · rw [embedM_lr, embedM_ll k hj]

theorem embed_abs_re (n : Nat) (Lr Li Ur Ui : Mat) (i j : Nat) (hi : i < n) (hj : j < n) :
    absMulEntry (2 * n) (embedM n Lr Li) (embedM n Ur Ui) i j = absMulEntry n Lr Ur i j + absMulEntry n Li Ui i j := by
  unfold absMulEntry
  rw [sumTo_two]
  refine congrArg₂ _ (sumTo_congr fun k hk => ?_) (sumTo_congr fun k _ => ?_)
  · rw [embedM_ul hi hk, embedM_ul hk hj]
  · rw [embedM_ur k hi, embedM_ll k hj, iabs_neg]

theorem embed_abs_im (n : Nat) (Lr Li Ur Ui : Mat) (i j : Nat) (hj : j < n) :
    absMulEntry (2 * n) (embedM n Lr Li) (embedM n Ur Ui) (n + i) j =
      absMulEntry n Li Ur i j + absMulEntry n Lr Ui i j := by
  unfold absMulEntry
  rw [sumTo_two]
  refine congrArg₂ _ (sumTo_congr fun k hk => ?_) (sumTo_congr fun k _ => ?_)
  · rw [embedM_ll i hk, embedM_ul hk hj]
  · rw [embedM_lr, embedM_ll k hj]

/-- real and imaginary part of every entry of `A − (L·U)` (permuted) are bounded by γ times the corresponding
absolute-value products.  Only the columns `j < n` of the `2n × 2n` check are read: the right half holds the same
inequalities again. -/
theorem cCheckLU_sound (n : Nat) (Are Aim Lre Lim Ure Uim : Mat) (pr pc : Nat → Nat) (num den : Int)
    (hpr : ∀ i, i < n → pr i < n) (hpc : ∀ j, j < n → pc j < n)
    (h : cCheckLU n Are Aim Lre Lim Ure Uim pr pc num den = true) :
    ∀ i, i < n → ∀ j, j < n →
      iabs (Are i j - (mulEntry n Lre Ure (pr i) (pc j) - mulEntry n Lim Uim (pr i) (pc j))) * den
        ≤ num * (absMulEntry n Lre Ure (pr i) (pc j) + absMulEntry n Lim Uim (pr i) (pc j)) ∧
      iabs (Aim i j - (mulEntry n Lim Ure (pr i) (pc j) + mulEntry n Lre Uim (pr i) (pc j))) * den
        ≤ num * (absMulEntry n Lim Ure (pr i) (pc j) + absMulEntry n Lre Uim (pr i) (pc j)) := by
  have H := (checkLU_iff _ _ _ _ _ _ _ _).1 h
  intro i hi j hj
  constructor
  · have := H i (by omega) j (by omega)
    rwa [embedP_lo hi, embedP_lo hj, embedM_ul hi hj, embed_mul_re n _ _ _ _ _ _ (hpr i hi) (hpc j hj),
      embed_abs_re n _ _ _ _ _ _ (hpr i hi) (hpc j hj)] at this
  · have := H (n + i) (by omega) j (by omega)
    rwa [embedP_hi, embedP_lo hj, embedM_ll i hj, embed_mul_im n _ _ _ _ _ _ (hpc j hj),
      embed_abs_im n _ _ _ _ _ _ (hpc j hj)] at this

end Slu
