/-
C12 — condition estimate and pivot growth are sound, over Model/Lacon.lean (`?lacon_`) and Model/Growth.lean
(`?langs`, `?PivotGrowth`, `?gscon`, driver wiring).
-/
import SluVerif.Proofs.LaconUpper
import SluVerif.Proofs.LaconLower
import SluVerif.Proofs.GrowthSpec

namespace Slu

/-- The dialogue ends (`kase = 0`) within the 12 calls of `laconFuel`, i.e. after at most 11 operator applications,
whatever the two operators do. -/
theorem lacon_terminates (n : Nat) (apply applyT : RVec → RVec) :
    (runLacon n apply applyT).io.kase = 0 ∧ (runLacon n apply applyT).applies ≤ 11 := by
  -- the trivial invariant: all ten premises of the case rule are `True`
  have step : LaconStep n apply applyT (fun _ _ => True) (fun _ => True) := by
    intro st io _
    apply laconCall_cases <;> intros <;> trivial
  have h := runLacon_spec step trivial
  exact ⟨h.1, h.2.1⟩

example : (runLacon 2 (matVec 2 fun i j => if i = j then 1 else 0) (matVecT 2 fun i j => if i = j then 1 else 0)).applies = 4 := by
  decide +kernel

/-- `est ≤ c` for every bound `c` on the absolute column sums of the `kase = 1` operator; the `kase = 2` operator is
irrelevant for this direction. -/
theorem lacon_upper_of_bound (n : Nat) (hn : 1 ≤ n) (M : Nat → Nat → Rat) (applyT : RVec → RVec) (c : Rat)
    (hc : ∀ j, j < n → colAbsSum n M j ≤ c) : (runLacon n (matVec n M) applyT).io.est ≤ c := by
  have hc0 : 0 ≤ c := le_trans (colAbsSum_nonneg n M 0) (hc 0 hn)
  exact (runLacon_spec (laconCall_upper (applyT := applyT) hn hc0 fun x => asum_matVec_le n M x c hc)
    ⟨hc0, fun h => absurd rfl h⟩).2.2

/-- `est ≤ ‖M‖₁`: every candidate is `‖M x‖₁` with `‖x‖₁ ≤ 1` — the start vector `e/n`, the unit vectors
`e_j`, and the alternating-sign vector, whose entries sum in absolute value to `3n/2`, times `2/(3n)`. -/
theorem lacon_upper (n : Nat) (hn : 1 ≤ n) (M : Nat → Nat → Rat) (applyT : RVec → RVec) :
    (runLacon n (matVec n M) applyT).io.est ≤ norm1 n M :=
  lacon_upper_of_bound n hn M applyT (norm1 n M) fun j hj => le_rmaxTo n (colAbsSum n M) j hj

example : norm1 2 (fun i j => if i = 0 ∧ j = 1 then 3 else 1) = 4 ∧
    (runLacon 2 (matVec 2 fun i j => if i = 0 ∧ j = 1 then 3 else 1) (matVecT 2 fun i j => if i = 0 ∧ j = 1 then 3 else 1)).io.est = 4 := by
  decide +kernel

/-- `est ≥ ‖M·(e/n)‖₁` when both operators are the real ones: the first candidate is `‖M e/n‖₁` and in
exact arithmetic the estimate never decreases (`‖M e_j‖₁ ≥ |z_j| = ‖z‖∞ ≥ zᵀx = ‖M x‖₁`). -/
theorem lacon_lower (n : Nat) (hn : 1 ≤ n) (M : Nat → Nat → Rat) :
    asum n (matVec n M (constVec n)) ≤ (runLacon n (matVec n M) (matVecT n M)).io.est :=
  (runLacon_spec (laconCall_lower n hn M _ (le_refl _)) fun h => absurd rfl h).2.2

/-- for the matrix of the example above the lower bound is 3, while the estimate and `‖M‖₁` are 4 -/
example : asum 2 (matVec 2 (fun i j => if i = 0 ∧ j = 1 then 3 else 1) (constVec 2)) = 3 := by
  decide +kernel

theorem gscon_run (n : Nat) (hn0 : n ≠ 0) (a b : RVec → RVec) (anorm : Rat) (c : Char) (hc : c = '1' ∨ c = 'I') :
    (gscon c n a b anorm).info = 0 ∧
    (gscon c n a b anorm).rcond
      = if (if c = '1' then runLacon n a b else runLacon n b a).io.est ≠ 0
        then (1 / (if c = '1' then runLacon n a b else runLacon n b a).io.est) / anorm else 0 := by
  have hI : ¬ (('I' : Char) = '1') := by decide
  rcases hc with rfl | rfl
  · -- `'1'` is `onenrm`
    simp [gscon, hn0]
  · -- `'I'` is not `onenrm` and passes the second letter test
    simp [gscon, hn0]

/-- `?gscon` with exact triangular solves (`B` = the inverse of `L·U`): for `norm = '1'` the estimator's
`kase = 1` operator is `B` (so `ainvnm` estimates `‖B‖₁`), for `norm = 'I'` it is `Bᵀ` (`‖Bᵀ‖₁ = ‖B‖∞`);
`rcond = (1/ainvnm)/anorm`, hence `1/(anorm·‖Bc‖₁) ≤ rcond ≤ 1/(anorm·‖Bc·e/n‖₁)` with `Bc = B` resp. `Bᵀ`. -/
theorem gscon_bounds (n : Nat) (hn : 1 ≤ n) (B : Nat → Nat → Rat) (anorm : Rat) (ha : 0 < anorm)
    (c : Char) (hc : c = '1' ∨ c = 'I') :
    (gscon c n (matVec n B) (matVecT n B) anorm).info = 0 ∧
    (0 < asum n (matVec n (if c = '1' then B else trD B) (constVec n)) →
      1 / (anorm * norm1 n (if c = '1' then B else trD B)) ≤ (gscon c n (matVec n B) (matVecT n B) anorm).rcond ∧
      (gscon c n (matVec n B) (matVecT n B) anorm).rcond
        ≤ 1 / (anorm * asum n (matVec n (if c = '1' then B else trD B) (constVec n)))) := by
  obtain ⟨hinfo, hr⟩ := gscon_run n (by omega) (matVec n B) (matVecT n B) anorm c hc
  refine ⟨hinfo, fun hpos => ?_⟩
  -- the dialogue `?gscon` runs is the one for `Bc`, with both operators the real ones
  have hrun : (if c = '1' then runLacon n (matVec n B) (matVecT n B) else runLacon n (matVecT n B) (matVec n B))
      = runLacon n (matVec n (if c = '1' then B else trD B)) (matVecT n (if c = '1' then B else trD B)) := by
    split <;> rfl
  rw [hr, hrun]
  generalize (if c = '1' then B else trD B) = Bc at hpos ⊢
  have hlo := lacon_lower n hn Bc
  have hup := lacon_upper n hn Bc (matVecT n Bc)
  have hest : 0 < (runLacon n (matVec n Bc) (matVecT n Bc)).io.est := lt_of_lt_of_le hpos hlo
  -- all three as inverses of `_ * anorm` (one `mul_comm anorm` per bound):
  -- `(‖Bc‖₁·anorm)⁻¹ ≤ (est·anorm)⁻¹ ≤ (‖Bc·e/n‖₁·anorm)⁻¹`
  rw [if_pos (ne_of_gt hest), div_div, one_div, one_div, one_div, mul_comm anorm, mul_comm anorm]
  exact ⟨inv_anti₀ (mul_pos hest ha) (mul_le_mul_of_nonneg_right hup (le_of_lt ha)),
    inv_anti₀ (mul_pos hpos ha) (mul_le_mul_of_nonneg_right hlo (le_of_lt ha))⟩

example : (gscon '1' 2 (matVec 2 fun i j => if i = j then 2 else 0) (matVecT 2 fun i j => if i = j then 2 else 0) 3).rcond = 1 / 6 := by
  decide +kernel

/-- the dense matrix `AA` that the factorization and `?langs` see -/
def aaDense (s : Stype) (D : Nat → Nat → Rat) : Nat → Nat → Rat := match s with | .NC => D | .NR => trD D
/-- the 1- or ∞-norm of a dense matrix, by the letter (no lemma relates it to `langs`) -/
def letterNorm (c : Char) (n : Nat) (D : Nat → Nat → Rat) : Rat := if c = '1' then norm1 n D else normInf n D

/-- Decision table of `p?gssvx`: the letter is `'1'` exactly when the system solved with the factored matrix `AA` is
untransposed after the NR flip, `'I'` otherwise; and `letterNorm` of that letter on `aaDense s D` is `‖D‖₁` when
`trans = NOTRANS` and `‖D‖∞` otherwise, for NC and NR alike (proof-side notions; not composed with `langs_spec` or
`gscon_bounds`). -/
theorem gssvx_norm_choice (s : Stype) (t : Trans) (n : Nat) (D : Nat → Nat → Rat) :
    (normLetter s t = '1' ↔ trantOf s t = .NOTRANS) ∧
    (normLetter s t = '1' ∨ normLetter s t = 'I') ∧
    letterNorm (normLetter s t) n (aaDense s D) = (if t = .NOTRANS then norm1 n D else normInf n D) := by
  cases s
  · -- NC: `AA = D`, the letter follows `trans`
    cases t <;> exact ⟨by decide, by decide, rfl⟩
  · -- NR: `AA = Dᵀ` and the letter is the other one: `‖Dᵀ‖∞ = ‖D‖₁`, `‖Dᵀ‖₁ = ‖D‖∞`
    cases t
    · exact ⟨by decide, by decide, normInf_trD n D⟩
    · exact ⟨by decide, by decide, norm1_trD n D⟩
    · exact ⟨by decide, by decide, norm1_trD n D⟩

example : normLetter .NR .NOTRANS = 'I' ∧ trantOf .NR .NOTRANS = .TRANS := by decide

/-- `info = n+1` exactly when `rcond < eps`, and the solution and the error bounds are still produced;
an exactly singular U (`0 < infoTrf ≤ n`) skips the solve and keeps `info`. -/
theorem info_n_plus_1 (n : Nat) (rcond eps : Rat) :
    ((gssvxTail n 0 rcond eps).info = (n : Int) + 1 ↔ rcond < eps) ∧
    (gssvxTail n 0 rcond eps).solved = true ∧
    ((gssvxTail n 0 rcond eps).info = 0 ∨ (gssvxTail n 0 rcond eps).info = (n : Int) + 1) ∧
    (∀ k : Int, 0 < k → (gssvxTail n k rcond eps).solved = false ∧ (gssvxTail n k rcond eps).info = k) := by
  have h : (gssvxTail n 0 rcond eps).info = if rcond < eps then (n : Int) + 1 else 0 := rfl
  refine ⟨?iff, rfl, ?range, fun k hk => ?singular⟩
  case iff =>
    rw [h]
    split
    · exact iff_of_true rfl ‹_›
    · exact iff_of_false (by omega) ‹_›
  case range =>
    rw [h]
    split
    · exact Or.inr rfl
    · exact Or.inl rfl
  case singular =>
    unfold gssvxTail
    rw [if_pos hk]
    exact ⟨rfl, rfl⟩

example : (gssvxTail 3 0 (1 / 1000) (1 / 10)).info = 4 ∧ (gssvxTail 3 0 (1 / 2) (1 / 10)).info = 0 := by decide +kernel

theorem langs_of (A : NCMat) (h0 : min A.nrow A.ncol ≠ 0) (c : Char) :
    langs c A = if c.toUpper = 'M' then some (langsMax A)
      else if c.toUpper = 'O' ∨ c = '1' then some (langsOne A)
      else if c.toUpper = 'I' then some (langsInf A) else none := by
  unfold langs
  rw [if_neg h0]

theorem langsOne_eq_dense (A : NCMat) (hwf : A.wf) : langsOne A = rmaxTo A.ncol (denseColSum A) := by
  rw [rmaxTo_eq, ← List.map_congr_left fun j hj => colSumAbs_eq_dense A hwf j (List.mem_range.mp hj)]
  unfold langsOne
  rw [rmax_eq_max]
  exact List.foldl_map.symm

theorem langsInf_eq_dense (A : NCMat) (hwf : A.wf) : langsInf A = rmaxTo A.nrow (denseRowSum A) := by
  rw [rmaxTo_eq, ← List.map_congr_left fun i _ => rowSumAbs_eq_dense A hwf i]
  unfold langsInf
  rw [rmax_eq_max]
  exact List.foldl_map.symm

theorem langsMax_eq (A : NCMat) :
    langsMax A = Equil.fmax 0 ((List.range A.ncol).flatMap fun j => (A.col j).map fun e => rabs e.2) := by
  unfold langsMax Equil.fmax
  rw [rmax_eq_max, List.foldl_flatMap]
  simp only [List.foldl_map]

theorem entry_of_mem (A : NCMat) (hwf : A.wf) (j : Nat) (hj : j < A.ncol) (e : Nat × Rat) (he : e ∈ A.col j) :
    A.entry e.1 j = e.2 := by
  unfold NCMat.entry
  have hl := filter_row_length (A.col j) (hwf.2 j hj) e.1
  have hmem : e ∈ (A.col j).filter fun x => x.1 = e.1 := by simp [he]
  generalize ((A.col j).filter fun x => x.1 = e.1) = fl at hl hmem ⊢
  -- at most one entry in row `e.1`, and `e` is one: the list is `[e]`
  match fl, hl, hmem with
  | [x], _, hm =>
    rw [List.mem_singleton] at hm
    subst hm
    simp
  | x :: y :: t, hl, _ => simp at hl

theorem entry_zero_or_mem (A : NCMat) (i j : Nat) : A.entry i j = 0 ∨ ∃ e ∈ A.col j, e.1 = i := by
  by_cases h : (A.col j).filter (fun x => x.1 = i) = []
  · left
    unfold NCMat.entry
    rw [h]
    rfl
  · right
    obtain ⟨e, he⟩ := List.exists_mem_of_ne_nil _ h
    have := List.mem_filter.mp he
    exact ⟨e, this.1, by simpa using this.2⟩

/-- `?langs` returns the norms of the dense matrix the structure denotes (rows in range, no duplicate entries):
`'1'`/`'O'` the largest absolute column sum, `'I'` the largest absolute row sum, `'M'` the largest absolute entry —
each an upper bound that is attained (or 0); `F` (not implemented, as is `E`) and an illegal letter (`X`) abort.
(An empty matrix, for which `?langs` returns 0 whatever the letter, is excluded by `h0`.) -/
theorem langs_spec (A : NCMat) (hwf : A.wf) (h0 : min A.nrow A.ncol ≠ 0) :
    (langs '1' A = some (langsOne A) ∧ langs 'O' A = some (langsOne A) ∧
      (∀ j, j < A.ncol → denseColSum A j ≤ langsOne A) ∧
      (langsOne A = 0 ∨ ∃ j, j < A.ncol ∧ langsOne A = denseColSum A j)) ∧
    (langs 'I' A = some (langsInf A) ∧
      (∀ i, i < A.nrow → denseRowSum A i ≤ langsInf A) ∧
      (langsInf A = 0 ∨ ∃ i, i < A.nrow ∧ langsInf A = denseRowSum A i)) ∧
    (langs 'M' A = some (langsMax A) ∧
      (∀ i j, i < A.nrow → j < A.ncol → rabs (A.entry i j) ≤ langsMax A) ∧
      (langsMax A = 0 ∨ ∃ i j, i < A.nrow ∧ j < A.ncol ∧ langsMax A = rabs (A.entry i j))) ∧
    langs 'F' A = none ∧ langs 'X' A = none := by
  simp only [langs_of A h0, langsOne_eq_dense A hwf, langsInf_eq_dense A hwf]
  refine ⟨⟨rfl, rfl, le_rmaxTo _ _, rmaxTo_attained _ _⟩, ⟨rfl, le_rmaxTo _ _, rmaxTo_attained _ _⟩,
    ⟨rfl, ?_, ?_⟩, rfl, rfl⟩
  · intro i j _ hj
    rw [langsMax_eq]
    rcases entry_zero_or_mem A i j with h | ⟨e, he, hei⟩
    · rw [h]
      exact le_trans (by simp [rabs]) (Equil.fmax_ge_init 0)
    · have := entry_of_mem A hwf j hj e he
      rw [hei] at this
      rw [this]
      apply Equil.fmax_ge_mem
      exact List.mem_flatMap.mpr ⟨j, List.mem_range.mpr hj, List.mem_map.mpr ⟨e, he, rfl⟩⟩
  · rw [langsMax_eq]
    rcases Equil.fmax_mem_or_init 0 ((List.range A.ncol).flatMap fun j => (A.col j).map fun e => rabs e.2) with h | h
    · left
      exact h
    · right
      obtain ⟨j, hj, hje⟩ := List.mem_flatMap.mp h
      obtain ⟨e, he, hee⟩ := List.mem_map.mp hje
      have hj' := List.mem_range.mp hj
      exact ⟨e.1, j, hwf.1 j hj' e he, hj', by rw [entry_of_mem A hwf j hj' e he]; exact hee.symm⟩

example : langs '1' { nrow := 2, ncol := 2, cols := #[#[(0, 1), (1, -3)], #[(1, 2)]] } = some 4 ∧
    langs 'I' { nrow := 2, ncol := 2, cols := #[#[(0, 1), (1, -3)], #[(1, 2)]] } = some 5 ∧
    langs 'M' { nrow := 2, ncol := 2, cols := #[#[(0, 1), (1, -3)], #[(1, 2)]] } = some 3 := by decide +kernel

/-- `?PivotGrowth` is the minimum (capped by `rpg0 = 1/safmin`) of `max|A_·j| / max|U_·j|` (1 when the U column is
zero) over the first `ncols` columns, U taken from the NCP part and the upper triangle of the supernode rectangle
(`ucolMaxAbs`), whatever order the supernodes are numbered in (unlike `pivotGrowthOrig`, the loop with an early exit:
`growth_spec_counterexample`). -/
theorem growth_spec_partial (ncols : Nat) (A : NCMat) (permC : Array Int) (L : SCP) (U : NCP) (rpg0 : Rat) :
    pivotGrowth ncols A permC L U rpg0 = pivotGrowthSpec ncols A permC L U rpg0 ∧
    pivotGrowth ncols A permC L U rpg0 ≤ rpg0 ∧
    (∀ sn ∈ L.sn.toList, ∀ k, k < sn.e - sn.f → sn.f + k < ncols →
      pivotGrowth ncols A permC L U rpg0 ≤ growthRatio A (fun j => (invPerm A.ncol permC).getD j 0) U sn k) ∧
    (pivotGrowth ncols A permC L U rpg0 = rpg0 ∨
      ∃ sn ∈ L.sn.toList, ∃ k, k < sn.e - sn.f ∧ sn.f + k < ncols ∧
        pivotGrowth ncols A permC L U rpg0 = growthRatio A (fun j => (invPerm A.ncol permC).getD j 0) U sn k) := by
  have heq : pivotGrowth ncols A permC L U rpg0 = pivotGrowthSpec ncols A permC L U rpg0 := by
    unfold pivotGrowth pivotGrowthSpec
    exact growthLoop_eq_foldl
  have hflat : pivotGrowth ncols A permC L U rpg0 = Equil.fmin rpg0
      (L.sn.toList.flatMap (growthCands ncols A (fun j => (invPerm A.ncol permC).getD j 0) U)) := by
    rw [heq]
    exact foldl_cands_flat ..
  refine ⟨heq, ?_⟩
  rw [hflat]
  refine ⟨?_, ?_, ?_⟩
  · exact Equil.fmin_le_init _ _
  · intro sn hsn k hk hlt
    refine Equil.fmin_le_mem _ _ _ (List.mem_flatMap.mpr ⟨sn, hsn, ?_⟩)
    unfold growthCands
    exact List.mem_map.mpr ⟨k, List.mem_filter.mpr ⟨List.mem_range.mpr hk, by simpa using hlt⟩, rfl⟩
  · refine (Equil.fmin_mem_or_init rpg0 _).imp_right fun h => ?_
    obtain ⟨sn, hsn, hc⟩ := List.mem_flatMap.mp h
    unfold growthCands at hc
    obtain ⟨k, hk, hke⟩ := List.mem_map.mp hc
    have hk' := List.mem_filter.mp hk
    exact ⟨sn, hsn, k, List.mem_range.mp hk'.1, by simpa using hk'.2, hke.symm⟩

/-- two single-column supernodes numbered against the column order (as several threads produce them):
supernode 0 holds column 1, supernode 1 holds column 0 whose pivot grew (|u| = 4 from |a| = 1) -/
def growthCexL : SCP :=
  { n := 2, nnz := 2, nsuper := 1, colToSup := #[1, 0], supBeg := #[1, 0], supEnd := #[2, 1],
    rowBegA := #[1, 0], rowEndA := #[2, 1], nzBegA := #[1, 0], nzEndA := #[2, 1],
    sn := #[{ f := 1, e := 2, rowBeg := 0, rows := #[1], nzBeg := #[0], vals := #[#[1]] },
            { f := 0, e := 1, rowBeg := 1, rows := #[0], nzBeg := #[1], vals := #[#[4]] }] }
def growthCexU : NCP := { n := 2, nnz := 2, cols := #[{ beg := 0, rows := #[], vals := #[] }, { beg := 0, rows := #[], vals := #[] }] }
def growthCexA : NCMat := { nrow := 2, ncol := 2, cols := #[#[(0, 1)], #[(1, 1)]] }

/-- `pivotGrowthOrig`, the loop with the early exit, on these supernodes: it stops after supernode 0 (which reaches
column `ncols = 2`) and never looks at column 0; it returns 1 although the minimum over the columns is 1/4 -/
theorem growth_spec_counterexample :
    pivotGrowthOrig 2 growthCexA #[0, 1] growthCexL growthCexU 1000 = 1 ∧
    pivotGrowth 2 growthCexA #[0, 1] growthCexL growthCexU 1000 = 1 / 4 ∧
    pivotGrowthSpec 2 growthCexA #[0, 1] growthCexL growthCexU 1000 = 1 / 4 ∧
    ¬ SupInOrder growthCexL.sn.toList := by
  refine ⟨by decide +kernel, by decide +kernel, by decide +kernel, ?_⟩
  simp [SupInOrder, growthCexL]

example : SupInOrder [{ f := 0, e := 1, rowBeg := 0, rows := #[0], nzBeg := #[0], vals := #[#[4]] },
    ({ f := 1, e := 2, rowBeg := 1, rows := #[1], nzBeg := #[1], vals := #[#[1]] } : Snode)] := by
  simp [SupInOrder]

end Slu
