/-
The exact checkers of Model/Check.lean: each Boolean check is equivalent to the inequality of the property it decides,
for every size n; and the scaled-integer inequality implies the one over the real (dyadic) values.
-/
import SluVerif.Model.Check
import SluVerif.Model.Perm
import SluVerif.Proofs.ArrayLemmas
import Mathlib.Tactic.Ring
import Mathlib.Tactic.Positivity
import Mathlib.Algebra.Order.Field.Basic

namespace Slu

theorem checkLU_iff (n : Nat) (A L U : Mat) (pr pc : Nat → Nat) (num den : Int) :
    checkLU n A L U pr pc num den = true ↔
      ∀ i, i < n → ∀ j, j < n →
        iabs (A i j - mulEntry n L U (pr i) (pc j)) * den ≤ num * absMulEntry n L U (pr i) (pc j) := by
  simp only [checkLU, luEntryOk, all_range_iff, decide_eq_true_eq]

theorem checkLU_sound (n : Nat) (A L U : Mat) (pr pc : Nat → Nat) (num den : Int)
    (h : checkLU n A L U pr pc num den = true) (i j : Nat) (hi : i < n) (hj : j < n) :
    iabs (A i j - mulEntry n L U (pr i) (pc j)) * den ≤ num * absMulEntry n L U (pr i) (pc j) :=
  (checkLU_iff n A L U pr pc num den).1 h i hi j hj

theorem checkLU_complete (n : Nat) (A L U : Mat) (pr pc : Nat → Nat) (num den : Int)
    (h : ∀ i, i < n → ∀ j, j < n →
        iabs (A i j - mulEntry n L U (pr i) (pc j)) * den ≤ num * absMulEntry n L U (pr i) (pc j)) :
    checkLU n A L U pr pc num den = true :=
  (checkLU_iff n A L U pr pc num den).2 h

theorem firstBadLU_none_iff (n : Nat) (A L U : Mat) (pr pc : Nat → Nat) (num den : Int) :
    firstBadLU n A L U pr pc num den = none ↔ checkLU n A L U pr pc num den = true := by
  simp only [firstBadLU, checkLU, List.findSome?_eq_none_iff, List.all_eq_true, ite_eq_left_iff,
    reduceCtorEq, imp_false, Bool.not_eq_true, Bool.not_eq_false]

theorem isUnitLower_iff (n : Nat) (L : Mat) (one : Int) :
    isUnitLower n L one = true ↔
      ∀ i, i < n → ∀ j, j < n → (i = j → L i j = one) ∧ (i < j → L i j = 0) := by
  simp only [isUnitLower, all_range_iff]
  refine forall₄_congr fun i _ j _ => ?_
  rcases Nat.lt_trichotomy i j with h | h | h
  · simp [h, Nat.ne_of_lt h]
  · simp [h]
  · simp [Nat.ne_of_gt h, Nat.lt_asymm h]

theorem isUpper_iff (n : Nat) (U : Mat) :
    isUpper n U = true ↔ ∀ i, i < n → ∀ j, j < n → j < i → U i j = 0 := by
  simp only [isUpper, all_range_iff, guard_iff]

theorem checkMultipliers_iff (n : Nat) (L : Mat) (one uNum uDen sNum sDen : Int) :
    checkMultipliers n L one uNum uDen sNum sDen = true ↔
      ∀ i, i < n → ∀ j, j < n → j < i →
        iabs (L i j) * uNum * sDen ≤ one * uDen * (sDen + sNum) := by
  simp only [checkMultipliers, all_range_iff, guard_iff]

theorem checkResidual_iff (n : Nat) (A W : Mat) (b x : Vec) (s : Nat) (num den : Int) :
    checkResidual n A W b x s num den = true ↔
      ∀ i, i < n →
        iabs (b i - sumTo n fun j => A i j * x j) * (2 : Int) ^ s * den
          ≤ num * sumTo n fun j => W i j * iabs (x j) := by
  simp only [checkResidual, residRowOk, all_range_iff, decide_eq_true_eq]

theorem checkDiagPref_iff (n : Nat) (L : Mat) (one : Int) (pr pcInv : Nat → Nat) (uNum uDen mNum mDen : Int) :
    checkDiagPref n L one pr pcInv uNum uDen mNum mDen = true ↔
      ∀ j, j < n → j < pr (pcInv j) → iabs (L (pr (pcInv j)) j) ≠ 0 →
        iabs (L (pr (pcInv j)) j) * uDen * mDen < uNum * colMaxL n L one j * (mDen + mNum) := by
  -- `if j < r then !(decide a && decide b) else true` is read as `j < r → a → ¬b`, and `¬(x ≥ y)` as `x < y`
  simp only [checkDiagPref, diagPrefColOk, all_range_iff, ← Bool.decide_and, ← decide_not, guard_iff,
    not_and, not_le]

/-! `A`, `L`, `U` hold integers; the real values are `A i j * sc^2`, `L i j * sc`, `U i j * sc` for the common scale
`sc = 2^E > 0`.  The integer inequality implies the real one with γ = num/den. -/

theorem iabs_cast (x : Int) : ((iabs x : Int) : Rat) = |(x : Rat)| := by
  rw [iabs, Int.natCast_natAbs, Int.cast_abs]

theorem sum_map_scaled {l : List Nat} {c : Rat} {f : Nat → Rat} {g : Nat → Int} (h : ∀ k, f k = c * (g k : Rat)) :
    (l.map f).sum = c * (((l.map g).sum : Int) : Rat) := by
  induction l with
  | nil => simp
  | cons a t ih => rw [List.map_cons, List.sum_cons, List.map_cons, List.sum_cons, ih, h a, Int.cast_add, mul_add]

theorem luEntry_rat (n : Nat) (A L U : Mat) (num den : Int) (hden : 0 < den) (sc : Rat) (hsc : 0 < sc)
    (i j r c : Nat)
    (h : iabs (A i j - mulEntry n L U r c) * den ≤ num * absMulEntry n L U r c) :
    |(A i j : Rat) * sc ^ 2 - ((List.range n).map fun k => ((L r k : Rat) * sc) * ((U k c : Rat) * sc)).sum|
      ≤ ((num : Rat) / den) * ((List.range n).map fun k => |(L r k : Rat) * sc| * |(U k c : Rat) * sc|).sum := by
  have hs2 : (0 : Rat) < sc ^ 2 := by positivity
  -- both sums are `sc²` times the integer sums of the checker
  have e1 : ((List.range n).map fun k => ((L r k : Rat) * sc) * ((U k c : Rat) * sc)).sum
      = sc ^ 2 * ((mulEntry n L U r c : Int) : Rat) :=
    sum_map_scaled fun k => by
      push_cast
      ring
  have e2 : ((List.range n).map fun k => |(L r k : Rat) * sc| * |(U k c : Rat) * sc|).sum
      = sc ^ 2 * ((absMulEntry n L U r c : Int) : Rat) :=
    sum_map_scaled fun k => by
      rw [abs_mul, abs_mul, abs_of_pos hsc, Int.cast_mul, iabs_cast, iabs_cast]
      ring
  have e3 : (A i j : Rat) * sc ^ 2 - sc ^ 2 * (mulEntry n L U r c : Rat)
      = sc ^ 2 * (((A i j - mulEntry n L U r c : Int)) : Rat) := by
    push_cast
    ring
  have hq : |((A i j - mulEntry n L U r c : Int) : Rat)| * den ≤ num * (absMulEntry n L U r c : Rat) := by
    rw [← iabs_cast]
    exact_mod_cast h
  rw [e1, e2, e3, abs_mul, abs_of_pos hs2, div_mul_eq_mul_div, le_div_iff₀ (by exact_mod_cast hden)]
  calc sc ^ 2 * |((A i j - mulEntry n L U r c : Int) : Rat)| * den
      = sc ^ 2 * (|((A i j - mulEntry n L U r c : Int) : Rat)| * den) := by ring
    _ ≤ sc ^ 2 * ((num : Rat) * (absMulEntry n L U r c : Rat)) := mul_le_mul_of_nonneg_left hq (le_of_lt hs2)
    _ = (num : Rat) * (sc ^ 2 * (absMulEntry n L U r c : Rat)) := by ring

/-- non-vacuity: a 2×2 exact factorisation passes `checkLU` with γ = 0/1 -/
example : checkLU 2 (fun i j => if i = 0 ∧ j = 0 then 2 else if i = 0 ∧ j = 1 then 1 else if i = 1 ∧ j = 0 then 4 else 5)
    (fun i j => if i = j then 1 else if i = 1 ∧ j = 0 then 2 else 0)
    (fun i j => if i = 0 ∧ j = 0 then 2 else if i = 0 ∧ j = 1 then 1 else if i = 1 ∧ j = 1 then 3 else 0)
    id id 0 1 = true := by decide

end Slu
