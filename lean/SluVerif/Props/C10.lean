/- C10 — orderings are bijections; preprocessing yields A·Pc and its postordered etree.
   Property theorems about the executable model `Model/Etree.lean`. -/
import SluVerif.Proofs.Colorder
import SluVerif.Proofs.UnionFind
import SluVerif.Proofs.Blocks
import SluVerif.Proofs.LiuInst
import SluVerif.Proofs.PostorderedIC
namespace Slu.Pre

/-- For every forest (any labelling, `parent[root] = n`) `TreePostorder` returns `n+1` entries, the first `n` a
permutation of `0..n-1` (what `checkPerm` accepts), and `post[n] = n`. -/
theorem postorder_perm {n : Nat} {parent : Array Nat} (h : IsForest n parent) :
    (treePostorder n parent).size = n + 1 ∧ getN (treePostorder n parent) n = n ∧
    PermOn n (treePostorder n parent) ∧ IsPerm n (firstInts n (treePostorder n parent)) := by
  obtain ⟨_, hp, rank, hr⟩ := h
  have c : FCtx (getN parent) n rank := ⟨hp, hr⟩
  exact ⟨treePostorder_size c, post_root c, post_permOn c, isPerm_firstInts (post_permOn c)⟩

example : IsForest 5 #[2, 2, 5, 4, 5] := isForest_of_increasing ⟨rfl, by decide⟩
example : IsForest 4 #[3, 0, 4, 2] :=   -- not topologically numbered: 1 → 0 → 3 → 2 → root
  ⟨rfl, by decide, ⟨fun v => #[1, 0, 3, 2, 4].getD v 0, by decide⟩⟩
example : IsPerm 4 (firstInts 4 (treePostorder 4 #[3, 0, 4, 2])) :=
  (postorder_perm (n := 4) ⟨rfl, by decide, ⟨fun v => #[1, 0, 3, 2, 4].getD v 0, by decide⟩⟩).2.2.2

/-- `treePostorder` numbers the vertices in the order of the recursive postorder `po` (lower-numbered children
first), which lists `0..n` once each (the model's walk runs on fuel `2n+3` and returns zeros if it runs out). -/
theorem postorder_fuel {n : Nat} {parent : Array Nat} {rank : Nat → Nat}
    (hp : ∀ v, v < n → getN parent v ≤ n) (hr : ∀ v, v < n → rank v < rank (getN parent v)) :
    treePostorder n parent =
      numberAll (Array.replicate (n + 1) 0) 0 (po (kids (getN parent) n) (rank n) n) ∧
    (po (kids (getN parent) n) (rank n) n).Perm (List.range (n + 1)) :=
  ⟨treePostorder_eq ⟨hp, hr⟩, po_root_perm ⟨hp, hr⟩⟩

example : treePostorder 5 #[2, 2, 5, 5, 3] = #[0, 1, 2, 4, 3, 5] := by decide +kernel

/-- After sp_colorder's relabelling `etree'[post[i]] = post[etree[i]]` parents are larger than their children and
every subtree is an index range `[v+1-s, v]` ending at its root. -/
theorem postorder_contiguous {n : Nat} {parent : Array Nat} (h : IsForest n parent) :
    Postordered n (relabelEtree n (treePostorder n parent) parent) := by
  obtain ⟨_, hp, rank, hr⟩ := h
  exact postordered_relabel ⟨hp, hr⟩

example : Postordered 4 (relabelEtree 4 (treePostorder 4 #[3, 0, 4, 2]) #[3, 0, 4, 2]) :=
  postorder_contiguous ⟨rfl, by decide, ⟨fun v => #[1, 0, 3, 2, 4].getD v 0, by decide⟩⟩
example : relabelEtree 4 (treePostorder 4 #[3, 0, 4, 2]) #[3, 0, 4, 2] = #[1, 2, 3, 4] := by decide +kernel

/-- A forest that is already postordered (interval-closed form) is left unchanged. -/
theorem postorder_stable {n : Nat} {parent : Array Nat} (h : PostorderedIC n parent) :
    ∀ v, v ≤ n → getN (treePostorder n parent) v = v := by
  have c := Increasing.fctx ⟨h.1, h.2.1⟩
  -- sorted and a permutation of `0..n`, so it is `0..n`
  have heq : poAll n parent (fun x => x) = List.range (n + 1) :=
    List.Perm.eq_of_pairwise (fun a b _ _ h1 h2 => by omega) (po_sorted h n n)
      List.pairwise_lt_range (po_root_perm c)
  exact fun v hv => post_at c (by rw [heq, List.getElem?_range (by omega)])

example : PostorderedIC 4 #[1, 2, 3, 4] := checkPostordered_sound (by decide)

/-- the oracle the check runs on the library's etree decides the interval-closed form of `Postordered` -/
theorem checkPostordered_iff {n : Nat} {par : Array Nat} :
    checkPostordered n par = true ↔ PostorderedIC n par :=
  ⟨checkPostordered_sound, checkPostordered_complete⟩

theorem postordered_check {n : Nat} {par : Array Nat} (h : Postordered n par) : checkPostordered n par = true :=
  checkPostordered_complete h.toIC

example : checkPostordered 4 #[1, 2, 3, 4] = true := by decide
example : checkPostordered 3 #[2, 3, 3] = false := by decide   -- parents larger, but subtree of 2 = {0,2}

/-- Whatever the pattern (even inconsistent arrays), `sp_symetree` and `sp_coletree` return `v < parent[v] ≤ n`,
hence a forest. -/
theorem etree_increasing (colbeg colend rowind : Array Nat) (nr n : Nat) :
    Increasing n (symEtree colbeg colend rowind n) ∧ Increasing n (colEtree colbeg colend rowind nr n) ∧
    IsForest n (symEtree colbeg colend rowind n) ∧ IsForest n (colEtree colbeg colend rowind nr n) := by
  have h1 := symEtree_increasing colbeg colend rowind n
  have h2 := colEtree_increasing colbeg colend rowind nr n
  exact ⟨h1, h2, isForest_of_increasing h1, isForest_of_increasing h2⟩

example : colEtree #[0, 2, 4, 5] #[2, 4, 5, 7] #[0, 2, 1, 3, 2, 0, 3] 4 4 = #[2, 3, 3, 4] := by decide +kernel

/-- For every pattern, both modes, every bijection `perm_c`: column `perm_c'[j]` of AC is column `j` of A (same
extents into A's own `rowind/nzval`, inputs the model never rewrites); `perm_c' = post ∘ perm_c` with `post` the
`TreePostorder` of the etree of the permuted matrix, so `perm_c'` is a bijection; the reported etree is that
etree relabelled, and postordered. -/
theorem colorder_view (m n : Nat) (colptr rowind pc : Array Nat) (symm : Bool) (et0 part0 : Array Nat)
    (hpc : PermOn n pc) :
    let r := colorder m n colptr rowind pc symm false et0 part0
    (∀ j, j < n → getN r.colbeg (getN r.permc j) = getN colptr j ∧
                  getN r.colend (getN r.permc j) = getN colptr (j + 1)) ∧
    PermOn n r.permc ∧ IsPerm n (firstInts n r.permc) ∧
    (∃ post, PermOn n post ∧ getN post n = n ∧ post = treePostorder n (colorderEt0 m n colptr rowind pc symm) ∧
       (∀ j, j < n → getN r.permc j = getN post (getN pc j)) ∧
       r.etree = relabelEtree n post (colorderEt0 m n colptr rowind pc symm)) ∧
    Postordered n r.etree := by
  refine ⟨fun j hj => ⟨colorder_view_get hpc hj, colorder_view_get hpc hj⟩,
          colorder_permc_permOn hpc,
          isPerm_firstInts (colorder_permc_permOn hpc),
          ⟨colorderPost m n colptr rowind pc symm, colorderPost_permOn m n colptr rowind pc symm,
            colorderPost_root m n colptr rowind pc symm, rfl,
            fun j hj => ?_, rfl⟩,
          colorder_etree_postordered m n colptr rowind pc symm et0 part0⟩
  rw [colorder_permc, getN_ofFn hj]

/-- `perm_c' = post ∘ perm_c` as `compPerm` on C `int_t` arrays -/
theorem colorder_permc_comp (m n : Nat) (colptr rowind pc : Array Nat) (symm : Bool) (et0 part0 : Array Nat)
    (hpc : PermOn n pc) :
    firstInts n (colorder m n colptr rowind pc symm false et0 part0).permc =
      compPerm (firstInts (n + 1) (treePostorder n (colorderEt0 m n colptr rowind pc symm))) (firstInts n pc) := by
  apply Array.ext
  · simp [firstInts, compPerm]
  · intro i h1 h2
    have hi : i < n := by simpa [firstInts] using h1
    have hpi := hpc.1 i hi
    -- both sides are `post[pc[i]]` as `Int`; the read of `post` is in range since `pc[i] < n`
    simp only [firstInts, compPerm, Array.getElem_ofFn, Array.getElem_map, Int.toNat_natCast, geti]
    rw [colorder_permc, getN_ofFn hi]
    simp only [Array.getD_eq_getD_getElem?, Array.size_ofFn, Nat.lt_succ_of_lt hpi, getElem?_pos,
      Array.getElem_ofFn]
    rfl

/-- `refact = YES`: only the view is rebuilt; `perm_c`, `etree`, `part_super_h` come back as given -/
theorem colorder_refact_view (m n : Nat) (colptr rowind pc : Array Nat) (symm : Bool) (et0 part0 : Array Nat)
    (hpc : PermOn n pc) :
    let r := colorder m n colptr rowind pc symm true et0 part0
    (∀ j, j < n → getN r.colbeg (getN pc j) = getN colptr j ∧ getN r.colend (getN pc j) = getN colptr (j + 1)) ∧
    r.permc = pc ∧ r.etree = et0 ∧ r.part = part0 :=
  ⟨fun _ hj => ⟨viewBeg_get colptr hpc hj, viewEnd_get colptr hpc hj⟩, rfl, rfl, rfl⟩

example : PermOn 4 #[2, 0, 3, 1] := by
  constructor
  · decide
  · have h : ∀ i, i < 4 → ∀ j, j < 4 → getN #[2, 0, 3, 1] i = getN #[2, 0, 3, 1] j → i = j := by decide
    exact fun i j hi hj => h i hi j hj
example : (colorder 4 4 #[0, 2, 4, 5, 7] #[0, 2, 1, 3, 2, 0, 3] #[2, 0, 3, 1] false false #[] #[]).colbeg
    = #[2, 5, 0, 4] := by decide +kernel

/-- On a valid structure (elements `0..m-1` of a possibly longer array, pointers climbing some rank) the
path-halving `find` returns the root of `i`'s set, keeps the structure valid and the partition unchanged.  The
fuel `pp.size + 1` of the model's loop is not mentioned: that it suffices is `findLoop_spec`. -/
theorem uf_find_halving {pp : Array Nat} {m : Nat} {rank : Nat → Nat} (hv : UFValid pp m rank) {i : Nat} (hi : i < m) :
    ∃ r, Rep pp m i r ∧ (ufFind i pp).1 = r ∧ getN pp r = r ∧
      UFValid (ufFind i pp).2 m rank ∧ (ufFind i pp).2.size = pp.size ∧
      ∀ j r', Rep (ufFind i pp).2 m j r' ↔ Rep pp m j r' := by
  obtain ⟨r, hr⟩ := hv.total i hi
  obtain ⟨h1, h2, h3, h4⟩ := ufFind_spec hv hr
  exact ⟨r, hr, h1, hr.is_root.2, h2, h3, h4⟩

example : UFValid #[1, 2, 3, 3, 4] 5 (fun i => i) := by
  refine ⟨by decide, ?_⟩
  intro i hi
  have h : ∀ i, i < 5 →
      getN #[1, 2, 3, 3, 4] i < 5 ∧ (getN #[1, 2, 3, 3, 4] i ≠ i → i < getN #[1, 2, 3, 3, 4] i) := by
    decide
  exact h i hi
example : ufFind 0 #[1, 2, 3, 3, 4] = (3, #[2, 2, 3, 3, 4]) := by decide

/-- `make_link` on two distinct roots merges exactly the two sets and keeps the structure valid -/
theorem uf_link {pp : Array Nat} {m : Nat} {rank : Nat → Nat} {c r0 : Nat} (hv : UFValid pp m rank)
    (hc : c < m) (hcr : getN pp c = c) (hr : r0 < m) (hrr : getN pp r0 = r0) (hne : c ≠ r0) :
    (∃ rank', UFValid (pp.setIfInBounds c r0) m rank') ∧
    ∀ i r, Rep (pp.setIfInBounds c r0) m i r ↔ ((Rep pp m i c ∧ r = r0) ∨ (¬ Rep pp m i c ∧ Rep pp m i r)) :=
  ⟨link_valid hv hc hcr hr hrr hne, link_rep hv hc hcr hr hrr hne⟩

/-- For every input `sp_symetree` returns the elimination tree of the strict upper triangle of the pattern:
`parent j = min { i > j : L_ij ≠ 0 }` (`n` if none) for `L` from naive symbolic elimination (`etreeRef`). -/
theorem symetree_eq_ref (colbeg colend rowind : Array Nat) (n : Nat) :
    symEtree colbeg colend rowind n = etreeRef n (symAdj colbeg colend rowind) ∧
    symEtree colbeg colend rowind n = symEtreeRef colbeg colend rowind n := by
  have h := symEtree_eq_ref colbeg colend rowind n
  exact ⟨h, by rw [h, symEtreeRef_eq]⟩

/-- For every `nr × nc` pattern with row indices in range `sp_coletree` returns the elimination tree of AᵀA
(columns adjacent when they share a row). -/
theorem coletree_eq_ref (colbeg colend rowind : Array Nat) (nr nc : Nat)
    (hrows : ∀ c, c < nc → ∀ p, p ∈ colRange colbeg colend c → getN rowind p < nr) :
    colEtree colbeg colend rowind nr nc = etreeRef nc (ataAdj colbeg colend rowind nr) ∧
    colEtree colbeg colend rowind nr nc = colEtreeRef colbeg colend rowind nr nc := by
  have h := colEtree_eq_ref colbeg colend rowind nr nc hrows
  exact ⟨h, by rw [h, colEtreeRef_eq]⟩

example : ∀ c, c < 4 → ∀ p, p ∈ colRange #[0, 2, 4, 5] #[2, 4, 5, 7] c → getN #[0, 2, 1, 3, 2, 0, 3] p < 4 := by decide
example : etreeRef 4 (ataAdj #[0, 2, 4, 5] #[2, 4, 5, 7] #[0, 2, 1, 3, 2, 0, 3] 4) = #[2, 3, 3, 4] := by decide +kernel

theorem etreeRef_spec (n : Nat) (adj : Nat → Nat → Bool) : IsEtree adj n (getN (etreeRef n adj)) :=
  etreeRef_isEtree n adj

/-- non-symmetric mode: what `sp_colorder` feeds to TreePostorder is the column elimination tree of `A·Pc` -/
theorem colorder_etree_ref (m n : Nat) (colptr rowind pc : Array Nat)
    (hrows : ∀ c, c < n → ∀ p, p ∈ colRange (viewBeg n colptr pc) (viewEnd n colptr pc) c → getN rowind p < m) :
    colorderEt0 m n colptr rowind pc false =
      etreeRef n (ataAdj (viewBeg n colptr pc) (viewEnd n colptr pc) rowind m) := by
  rw [colorderEt0_false]
  exact colEtree_eq_ref _ _ _ _ _ hrows

/-- A renumbering that numbers every vertex before its etree parent (in particular a postorder) is an equivalent
reordering: filled graph and elimination tree of the renumbered graph are the renumbered ones. -/
theorem etree_reorder {G G' : Nat → Nat → Bool} {n : Nat} {par q g : Nat → Nat} (R : Reorder G G' n par q g) :
    (∀ a b, a < n → b < n → fill G' n (q a) (q b) = fill G n a b) ∧
    IsEtree G' n (fun x => q (par (g x))) :=
  ⟨fun _ _ ha hb => R.fill_eq ha hb, R.isEtree⟩

/-- Non-symmetric mode, row indices `< m`: the etree `sp_colorder` reports is the column elimination tree of the
final `A·Pc'` given by the returned view: the reference etree of `(A·Pc')ᵀ(A·Pc')`. -/
theorem colorder_final_etree (m n : Nat) (colptr rowind pc et0 part0 : Array Nat)
    (hrows : ∀ c, c < n → ∀ p, p ∈ colRange (viewBeg n colptr pc) (viewEnd n colptr pc) c → getN rowind p < m) :
    (colorder m n colptr rowind pc false false et0 part0).etree =
      etreeRef n (ataAdj (colorder m n colptr rowind pc false false et0 part0).colbeg
                          (colorder m n colptr rowind pc false false et0 part0).colend rowind m) := by
  obtain ⟨g, R⟩ := colorder_reorder m n colptr rowind pc et0 part0 hrows
  apply eq_etreeRef_of_isEtree
  · rw [colorder_etree]
    simp [relabelEtree, scatter_size]
  · refine isEtree_congr_par (fun j hj => ?_) R.isEtree
    rw [colorder_etree]
    have := relabel_get (colorderEt0_increasing m n colptr rowind pc false).fctx (R.glt j hj)
    rwa [show getN (treePostorder n (colorderEt0 m n colptr rowind pc false)) (g j) = j from R.qg j hj] at this

example : ∀ c, c < 4 → ∀ p, p ∈ colRange (viewBeg 4 #[0, 2, 4, 5, 7] #[2, 0, 3, 1]) (viewEnd 4 #[0, 2, 4, 5, 7] #[2, 0, 3, 1]) c →
    getN #[0, 2, 1, 3, 2, 0, 3] p < 4 := by decide +kernel
example : (colorder 4 4 #[0, 2, 4, 5, 7] #[0, 2, 1, 3, 2, 0, 3] #[2, 0, 3, 1] false false #[] #[]).etree = #[1, 2, 3, 4] := by decide +kernel

/-- The check run on `part_super_h` holds exactly when the array has length `n` and describes consecutive blocks
`[k, k+part[k])` covering `0..n-1`, zeros inside. -/
theorem part_super_blocks {n : Nat} {part : Array Nat} :
    checkPartSuper n part = true ↔ (part.size = n ∧ Blocks part n 0) := by
  unfold checkPartSuper
  simp only [Bool.and_eq_true, beq_iff_eq]
  constructor
  · rintro ⟨h1, h2⟩
    exact ⟨h1, checkBlocksFrom_sound part n n 0 h2⟩
  · rintro ⟨h1, h2⟩
    exact ⟨h1, checkBlocksFrom_complete part n n 0 (by omega) h2⟩

theorem part_super_cover {n : Nat} {part : Array Nat} (h : checkPartSuper n part = true) :
    ∀ j, j < n → ∃ b, b ≤ j ∧ 1 ≤ getN part b ∧ j < b + getN part b ∧ b + getN part b ≤ n ∧
      ∀ i, b < i → i ≤ j → getN part i = 0 := by
  intro j hj
  obtain ⟨b, _, h2, h3⟩ := (part_super_blocks.1 h).2.cover j (Nat.zero_le _) hj
  exact ⟨b, h2, h3⟩

/-- For every input and both modes the `part_super_h` of the model of `qrnzcnt`'s first pass / of `cholnzcnt`
inside `sp_colorder` passes the block check. -/
theorem part_super_model (m n : Nat) (colptr rowind pc : Array Nat) (symm : Bool) (et0 part0 : Array Nat) :
    checkPartSuper n (colorder m n colptr rowind pc symm false et0 part0).part = true ∧
    Blocks (colorder m n colptr rowind pc symm false et0 part0).part n 0 := by
  have h := colorder_part_blocks m n colptr rowind pc symm et0 part0
  exact ⟨h, (part_super_blocks.1 h).2⟩

example : (colorder 4 4 #[0, 2, 4, 5, 7] #[0, 2, 1, 3, 2, 0, 3] #[2, 0, 3, 1] false false #[] #[]).part
    = #[1, 1, 2, 0] := by decide +kernel

example : checkPartSuper 4 #[1, 1, 2, 0] = true := by decide
example : checkPartSuper 4 #[1, 2, 2, 0] = false := by decide

end Slu.Pre
