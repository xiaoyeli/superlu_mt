/-
C01 — the solve with the returned factors solves the system (exact arithmetic).  `solveN` is the dense reading of
`?gstrs` for `A·x = b`: forward substitution with L in pivot order, back substitution with U.  `solve_correct`: if the
factorization reports `info = 0` then `Σ_j A(i,j)·x_j = b_i` for every row — A being the column-permuted matrix, so the
caller's solution is `Pc·x`.  With `factor_identity` this is the exact-arithmetic skeleton of C01's backward-error
statement; the rounding bound is checked on the implementation by the exact residual oracle.
-/
import SluVerif.Props.C06
import Mathlib.Algebra.BigOperators.Group.Finset.Sigma
import Mathlib.Tactic.Ring

namespace Slu

theorem solveLower_rec (n : Nat) (st : LUState) (b : Nat → Rat) (s t : Nat) (hst : s < t) :
    (solveLower n st b t).getD s 0 =
      b (st.piv.getD s 0) - sumQ s (fun s' => getQ st.ell (st.piv.getD s 0) s' * (solveLower n st b t).getD s' 0) :=
  push_rec (solveLower n st b)
    (fun s y => b (st.piv.getD s 0) - sumQ s fun s' => getQ st.ell (st.piv.getD s 0) s' * y.getD s' 0)
    rfl (fun _ => rfl) (fun s a b h => by rw [sumQ_congr_getD s a b h]) s t hst

theorem solveUpperRev_rec (n : Nat) (st : LUState) (y : Array Rat) (m k : Nat) (hmk : m < k) :
    (solveUpperRev n st y k).getD m 0 =
      (y.getD (n - 1 - m) 0 - sumQ m (fun d => getQ st.uu (n - 1 - m) (n - 1 - d) * (solveUpperRev n st y k).getD d 0))
        / getQ st.uu (n - 1 - m) (n - 1 - m) :=
  push_rec (solveUpperRev n st y)
    (fun m x => (y.getD (n - 1 - m) 0 - sumQ m fun d => getQ st.uu (n - 1 - m) (n - 1 - d) * x.getD d 0)
      / getQ st.uu (n - 1 - m) (n - 1 - m))
    rfl (fun _ => rfl) (fun s a b h => by rw [sumQ_congr_getD s a b h]) m k hmk

theorem solve_of_luInv (P : LUParams) (st : LUState) (inv : LUInv P st) (hk : st.k = P.n) (b : Nat → Rat)
    (hpiv : ∀ j, j < P.n → getQ st.uu j j ≠ 0) :
    ∀ i, i < P.n → sumQ P.n (fun j => getQ P.A i j * solveN P.n st b j) = b i := by
  have hpivoted := inv.all_pivoted hk
  let n := P.n
  let y : Nat → Rat := fun t => (solveLower n st b n).getD t 0
  let xr : Array Rat := solveUpperRev n st (solveLower n st b n) n
  let x : Nat → Rat := solveN n st b
  have hL : ∀ i, i < n → sumQ n (fun s => getQ st.ell i s * y s) = b i := by
    intro i hi
    obtain ⟨t, ht, -, hpt⟩ := hpivoted i hi
    have := inv.lower_row y (b i) t n (hk ▸ ht) ht (le_refl _) (hpt ▸ solveLower_rec n st b t n ht)
    rwa [hpt] at this
  have hrev : ∀ i, i < n → n - 1 - (n - 1 - i) = i := fun i hi => Nat.sub_sub_self (Nat.le_sub_one_of_lt hi)
  have hU : ∀ t, t < n → sumQ n (fun j => getQ st.uu t j * x j) = y t := by
    intro t ht
    have hrec := solveUpperRev_rec n st (solveLower n st b n) (n - 1 - t) n (by omega)
    rw [hrev t ht] at hrec
    -- summed from the last column backwards the row stops at the diagonal: entries left of it vanish
    have hleft : ∀ d, n - 1 - t < d → d < n → getQ st.uu t (n - 1 - d) * x (n - 1 - d) = 0 := fun d h1 h2 => by
      rw [inv.uu_upper t (n - 1 - d) (by omega) (by omega) ht, zero_mul]
    -- `x` read backwards is the array `xr`
    have hright : ∀ d, d < n - 1 - t →
        getQ st.uu t (n - 1 - d) * x (n - 1 - d) = getQ st.uu t (n - 1 - d) * xr.getD d 0 := fun d hd => by
      rw [show x (n - 1 - d) = xr.getD (n - 1 - (n - 1 - d)) 0 from rfl, hrev d (by omega)]
    rw [← sumQ_reverse n, sumQ_zero_tail n (n - 1 - t) (by omega) hleft, hrev t ht,
      sumQ_congr (n - 1 - t) hright]
    rw [show x t = xr.getD (n - 1 - t) 0 from rfl, hrec, mul_div_cancel₀ _ (hpiv t ht)]
    ring
  intro i hi
  have hA : ∀ j, j < n → getQ P.A i j * x j = sumQ n (fun t => getQ st.ell i t * (getQ st.uu t j * x j)) := by
    intro j hj
    rw [inv.col_id i j hi (hk ▸ hj), mul_comm, ← sumQ_mul_left]
    exact sumQ_congr _ fun t _ => by ring
  -- A x = L (U x) = L y = b
  calc sumQ n (fun j => getQ P.A i j * x j)
      = sumQ n fun j => sumQ n fun t => getQ st.ell i t * (getQ st.uu t j * x j) := sumQ_congr n hA
    _ = sumQ n fun t => sumQ n fun j => getQ st.ell i t * (getQ st.uu t j * x j) :=
        Finset.sum_comm (s := Finset.range n) (t := Finset.range n)
    _ = sumQ n fun t => getQ st.ell i t * y t := sumQ_congr n fun t ht => by rw [sumQ_mul_left, hU t ht]
    _ = b i := hL i hi

theorem solve_correct (P : LUParams) (usepr : Bool) (b : Nat → Rat) (hinfo : (factor P usepr).info = 0) :
    ∀ i, i < P.n → sumQ P.n (fun j => getQ P.A i j * solveN P.n (factor P usepr) b j) = b i :=
  solve_of_luInv P _ (luInv_factor P usepr).1 (luInv_factor P usepr).2 b ((info_zero_iff P usepr).1 hinfo)

/-! non-vacuity: a 2×2 system with a row interchange is factored with `info = 0` and solved exactly -/
def exA : QArr := #[#[1, 3], #[4, 2]]
def exP : LUParams := { n := 2, A := exA, u := 1, diagOf := fun j => j, oldInv := fun _ => -1 }
example : (factor exP false).info = 0 ∧ (factor exP false).piv = #[1, 0] := by decide +kernel
example : solveN 2 (factor exP false) (fun i => if i = 0 then 7 else 8) 0 = 1 ∧
          solveN 2 (factor exP false) (fun i => if i = 0 then 7 else 8) 1 = 2 := by decide +kernel
end Slu
