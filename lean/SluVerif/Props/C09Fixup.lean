/-
C09 — `fixupL` (as repaired in /repo commit 11eb13c) lays the supernodes' row lists out consecutively in
supernode-number order, each mapped through `perm_r`, whatever order they were stored in; the in-place loop it
replaced (`fixupLInPlace`) does not.
-/
import SluVerif.Model.Fixup
import SluVerif.Proofs.SchedArray

namespace Slu

/-- specification: the mapped segments of supernodes `0 .. k-1`, concatenated -/
def fixSpecOut (g : GluL) (permr : Array Int) (k : Nat) : List Int :=
  (List.range k).flatMap fun i => (g.seg i).map fun r => geti permr r.toNat

theorem fixSpecOut_succ (g : GluL) (permr : Array Int) (k : Nat) :
    fixSpecOut g permr (k + 1) = fixSpecOut g permr k ++ (g.seg k).map (fun r => geti permr r.toNat) := by
  simp [fixSpecOut, List.range_succ]

/-- after `k` iterations of the supernode loop -/
theorem fixupL_loop (g : GluL) (permr : Array Int) (k : Nat)
    (hinj : ∀ i i', i < k → i' < k → getN g.xsup i = getN g.xsup i' → i = i')
    (hsz : ∀ i, i < k → getN g.xsup i < g.xlsub.size ∧ getN g.xsup i < g.xlsubEnd.size) :
    let a := (List.range k).foldl (fixStep g permr) { out := [], xlsub := g.xlsub, xlsubEnd := g.xlsubEnd }
    a.out = fixSpecOut g permr k ∧ a.xlsub.size = g.xlsub.size ∧ a.xlsubEnd.size = g.xlsubEnd.size ∧
    (∀ i, i < k → getN a.xlsub (getN g.xsup i) = (fixSpecOut g permr i).length ∧
                  getN a.xlsubEnd (getN g.xsup i) = (fixSpecOut g permr (i + 1)).length) := by
  induction k with
  | zero => exact ⟨rfl, rfl, rfl, fun i hi => absurd hi (Nat.not_lt_zero i)⟩
  | succ k ih =>
    obtain ⟨h1, h2, h3, h4⟩ := ih (fun i i' h1 h2 => hinj i i' (by omega) (by omega)) (fun i h => hsz i (by omega))
    simp only [List.range_succ, List.foldl_append, List.foldl_cons, List.foldl_nil]
    generalize (List.range k).foldl (fixStep g permr) { out := [], xlsub := g.xlsub, xlsubEnd := g.xlsubEnd } = a at *
    have hfk := hsz k (Nat.lt_succ_self k)
    have hout : (fixStep g permr a k).out = fixSpecOut g permr (k + 1) := by
      rw [fixSpecOut_succ, ← h1]
      rfl
    refine ⟨hout, (Array.size_setIfInBounds).trans h2, (Array.size_setIfInBounds).trans h3, fun i hi => ?_⟩
    simp only [fixStep]
    rw [getN_set _ _ _ _ (h2 ▸ hfk.1), getN_set _ _ _ _ (h3 ▸ hfk.2)]
    rcases Nat.lt_succ_iff_lt_or_eq.1 hi with hik | rfl
    · -- an earlier supernode has another first column: its two pointers are not touched
      have hne : getN g.xsup i ≠ getN g.xsup k := fun heq => Nat.ne_of_lt hik (hinj i k hi (Nat.lt_succ_self k) heq)
      rw [if_neg hne, if_neg hne]
      exact h4 i hik
    · rw [if_pos rfl, if_pos rfl, fixSpecOut_succ, List.length_append, h1]
      exact ⟨rfl, rfl⟩

/-- for every storage order: the compacted array is `fixSpecOut`, `xlsub/xlsub_end` of each supernode's first column
delimit its list, `xlsub[n]` is the total length.  In the C state `xsup` is strictly increasing and below n (`hinj`,
`hfn`), `xlsub` has n+1 entries and `xlsub_end` n (`hsz`, `hn`; pdmemory.c:315-316). -/
theorem fixupL_spec (g : GluL) (permr : Array Int)
    (hinj : ∀ i i', i ≤ g.nsuper → i' ≤ g.nsuper → getN g.xsup i = getN g.xsup i' → i = i')
    (hsz : ∀ i, i ≤ g.nsuper → getN g.xsup i < g.xlsub.size ∧ getN g.xsup i < g.xlsubEnd.size)
    (hn : g.n < g.xlsub.size) (hfn : ∀ i, i ≤ g.nsuper → getN g.xsup i ≠ g.n) :
    (fixupL g permr).out = fixSpecOut g permr (g.nsuper + 1) ∧
    getN (fixupL g permr).xlsub g.n = (fixSpecOut g permr (g.nsuper + 1)).length ∧
    ∀ i, i ≤ g.nsuper →
      getN (fixupL g permr).xlsub (getN g.xsup i) = (fixSpecOut g permr i).length ∧
      getN (fixupL g permr).xlsubEnd (getN g.xsup i) = (fixSpecOut g permr (i + 1)).length := by
  obtain ⟨h1, h2, -, h4⟩ := fixupL_loop g permr (g.nsuper + 1)
    (fun i i' h1 h2 => hinj i i' (by omega) (by omega)) (fun i h => hsz i (by omega))
  simp only [fixupL]
  refine ⟨h1, ?_, fun i hi => ?_⟩
  · rw [getN_set _ _ _ _ (h2 ▸ hn), if_pos rfl, h1]
  · rw [getN_set _ _ _ _ (h2 ▸ hn), if_neg (hfn i hi)]
    exact h4 i (by omega)

/-! Where the in-place loop fails: two singleton supernodes whose row lists were allocated in the opposite order of
their numbers (possible with two threads: numbers and storage are handed out under different locks), supernode 0 at
lsub[2..4), supernode 1 at lsub[0..2).  The in-place loop overwrites supernode 1's list before reading it. -/

def exSwapped : GluL :=
  { n := 2, nsuper := 1, xsup := #[0, 1], xsupEnd := #[1, 2], lsub := #[1, 1, 0, 1], xlsub := #[2, 0, 0], xlsubEnd := #[4, 2, 0] }

example : (fixupL exSwapped #[0, 1]).out = [0, 1, 1, 1] := by decide
/-- the in-place loop yields `[0,1,0,1]` instead of `[0,1,1,1]` -/
theorem fixupL_inplace_needs_storage_order :
    ((fixupLInPlace exSwapped #[0, 1]).1.toList.take 4) ≠ fixSpecOut exSwapped #[0, 1] 2 := by decide

/-- storage order = numbering: the two coincide -/
example : ((fixupLInPlace { exSwapped with lsub := #[0, 1, 1, 1], xlsub := #[0, 2, 0], xlsubEnd := #[2, 4, 0] } #[0, 1]).1.toList.take 4)
    = [0, 1, 1, 1] := by decide

end Slu
