import SluVerif.Model.LU
import SluVerif.Proofs.ArrayLemmas
import Mathlib.Algebra.Order.Field.Rat
import Mathlib.Algebra.BigOperators.Group.Finset.Basic

namespace Slu

/-! `sumQ n f` is `∑ t ∈ Finset.range n, f t` by definition: Mathlib's lemmas about such sums apply as they stand. -/

theorem sumQ_eq_sum (n : Nat) (f : Nat → Rat) : sumQ n f = ∑ t ∈ Finset.range n, f t := rfl

theorem sumQ_succ (n : Nat) (f : Nat → Rat) : sumQ (n + 1) f = sumQ n f + f n :=
  Finset.sum_range_succ f n

theorem sumQ_congr (n : Nat) {f g : Nat → Rat} (h : ∀ t, t < n → f t = g t) : sumQ n f = sumQ n g :=
  Finset.sum_congr rfl fun t ht => h t (Finset.mem_range.1 ht)

theorem sumQ_zero_tail (n j : Nat) {f : Nat → Rat} (hj : j < n) (h : ∀ t, j < t → t < n → f t = 0) :
    sumQ n f = sumQ j f + f j := by
  rw [← sumQ_succ]
  refine (Finset.sum_subset (Finset.range_subset_range.2 hj) fun t ht hnt => ?_).symm
  exact h t (Nat.lt_of_not_le fun hle => hnt (Finset.mem_range.2 (Nat.lt_succ_of_le hle))) (Finset.mem_range.1 ht)

theorem sumQ_reverse (n : Nat) (f : Nat → Rat) : sumQ n (fun d => f (n - 1 - d)) = sumQ n f := by
  induction n generalizing f with
  | zero => rfl
  | succ n ih =>
    -- peel the first term on the left, the last on the right
    rw [sumQ_eq_sum, Finset.sum_range_succ', sumQ_succ, ← ih]
    exact congrArg₂ _ (sumQ_congr _ fun d hd => congrArg f (by omega)) rfl

theorem sumQ_mul_left (n : Nat) (c : Rat) (f : Nat → Rat) : sumQ n (fun t => c * f t) = c * sumQ n f :=
  (map_sum (AddMonoidHom.mulLeft c) f (Finset.range n)).symm

theorem sumQ_congr_getD (s : Nat) {c : Nat → Rat} (a b : Array Rat) (h : ∀ i, i < s → a.getD i 0 = b.getD i 0) :
    sumQ s (fun i => c i * a.getD i 0) = sumQ s (fun i => c i * b.getD i 0) :=
  sumQ_congr s fun i hi => by rw [h i hi]

/-- arrays grown by one push per step, the new entry `g t` computed from the entries before it: entry `s` of any
later array satisfies its defining equation, read in that later array -/
theorem push_rec (f : Nat → Array Rat) (g : Nat → Array Rat → Rat) (h0 : f 0 = #[])
    (hs : ∀ t, f (t + 1) = (f t).push (g t (f t)))
    (hg : ∀ s a b, (∀ i, i < s → a.getD i 0 = b.getD i 0) → g s a = g s b) (s t : Nat) (hst : s < t) :
    (f t).getD s 0 = g s (f t) := by
  have hsz : ∀ t, (f t).size = t := fun t => by
    induction t with
    | zero =>
      rw [h0]
      rfl
    | succ t ih => rw [hs, Array.size_push, ih]
  have hstable : ∀ s t, s < t → (f t).getD s 0 = g s (f s) := fun s t hst => by
    induction t with
    | zero => omega
    | succ t ih =>
      rw [hs, getD_push, hsz]
      split
      · next e => rw [e]
      · next e => exact ih (by omega)
  rw [hstable s t hst]
  exact hg s _ _ fun i hi => by rw [hstable i s hi, hstable i t (by omega)]

theorem ucolA_rec (A ell : QArr) (piv : Array Nat) (j s t : Nat) (hst : s < t) :
    (ucolA A ell piv j t).getD s 0 =
      getQ A (piv.getD s 0) j - sumQ s (fun s' => getQ ell (piv.getD s 0) s' * (ucolA A ell piv j t).getD s' 0) :=
  push_rec (ucolA A ell piv j)
    (fun s u => getQ A (piv.getD s 0) j - sumQ s fun s' => getQ ell (piv.getD s 0) s' * u.getD s' 0)
    rfl (fun _ => rfl) (fun s a b h => by rw [sumQ_congr_getD s a b h]) s t hst

theorem qabs_eq_abs (x : Rat) : qabs x = |x| := by
  unfold qabs
  split
  · next h => exact (abs_of_neg h).symm
  · next h => exact (abs_of_nonneg (not_lt.1 h)).symm

theorem qabs_nonneg (x : Rat) : 0 ≤ qabs x := qabs_eq_abs x ▸ abs_nonneg x

theorem qabs_eq_zero {x : Rat} : qabs x = 0 ↔ x = 0 := qabs_eq_abs x ▸ abs_eq_zero

theorem mem_candRows (P : LUParams) (st : LUState) (i : Nat) :
    i ∈ candRows P st ↔ i < P.n ∧ posOf st i = none := by
  simp [candRows]

theorem candRows_nodup (P : LUParams) (st : LUState) : (candRows P st).Nodup :=
  List.Nodup.filter _ List.nodup_range

end Slu
