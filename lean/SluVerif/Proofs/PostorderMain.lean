/- TreePostorder in closed form; `post[]` is a bijection of `0..n`, fixes `n`, and numbers every subtree as an
   interval ending at its root. -/
import SluVerif.Proofs.Forest
namespace Slu.Pre

theorem numberAll_get_not_mem (post : Array Nat) (pn : Nat) (l : List Nat) (x : Nat) (h : x ∉ l) :
    getN (numberAll post pn l) x = getN post x := by
  induction l generalizing post pn with
  | nil => rfl
  | cons y l ih =>
      simp only [List.mem_cons, not_or] at h
      simp only [numberAll]
      rw [ih _ _ h.2, getN_set_ne (Ne.symm h.1)]

/-- the entry at position `i` of a duplicate-free list gets the number `pn + i` -/
theorem numberAll_at : ∀ (l : List Nat) (post : Array Nat) (pn i x : Nat), l.Nodup → l[i]? = some x →
    x < post.size → getN (numberAll post pn l) x = pn + i
  | y :: l, post, pn, 0, x, hnd, h, hx => by
      cases h
      rw [numberAll, numberAll_get_not_mem _ _ _ _ (List.nodup_cons.1 hnd).1, getN_set_self hx]
      rfl
  | y :: l, post, pn, i + 1, x, hnd, h, hx => by
      rw [numberAll, numberAll_at l _ (pn + 1) i x (List.nodup_cons.1 hnd).2 h (by simpa using hx)]
      omega

/-- the fuel `2n+3` suffices (the walk makes `2(n+1)` visits), and the result is numbered in the order of `po` -/
theorem treePostorder_eq {n : Nat} {parent : Array Nat} {rank : Nat → Nat} (c : FCtx (getN parent) n rank) :
    treePostorder n parent =
      numberAll (Array.replicate (n + 1) 0) 0 (po (kids (getN parent) n) (rank n) n) := by
  have hlen := po_root_length c
  unfold treePostorder
  have hinv := buildKids_inv parent n c.hp
  generalize buildKids n parent = bk at hinv
  simp only at hinv ⊢
  -- `n = 0` apart: `SimNode` asks for `pn ≠ n`
  by_cases hn : n = 0
  · subst hn
    have hk : kids (getN parent) 0 0 = [] := rfl
    have hpo : po (kids (getN parent) 0) (rank 0) 0 = [0] := by
      cases rank 0 <;> simp [po, hk]
    rw [hpo]
    simp [walkFuel, walk, numberAll]
  · -- from the root with `g = 1`, `pn = 0`: `2n + 3 = 1 + 2·(n + 1)`
    have hs := simNode hinv c.hr (rank n) n (Nat.le_refl _) (Nat.le_refl _) 1 0 (Array.replicate (n + 1) 0)
      (fun h => hn h.symm) (by omega)
    have hf : walkFuel n = 1 + 2 * (po (kids (getN parent) n) (rank n) n).length := by
      rw [hlen]
      unfold walkFuel
      omega
    rw [hf, hs, hlen]
    -- at the root's climb point `next_kid[n] = 0 ≠ -1` and `postnum = n + 1`: the walk returns
    rw [walk, hinv.hnkn]
    simp

/-- `p` restricted to `0..n-1` is a bijection (later entries ignored): the `Array Nat` side of `IsPerm`, which
is about C `int_t` arrays; `isPerm_firstInts` is the bridge -/
def PermOn (n : Nat) (p : Array Nat) : Prop :=
  (∀ i, i < n → getN p i < n) ∧ (∀ i j, i < n → j < n → getN p i = getN p j → i = j)

/-- the first `n` entries as a C `int_t` array -/
def firstInts (n : Nat) (p : Array Nat) : Array Int := Array.ofFn (n := n) (fun i => (getN p i.1 : Int))

theorem isPerm_firstInts {n : Nat} {p : Array Nat} (h : PermOn n p) : IsPerm n (firstInts n p) := by
  refine ⟨by simp [firstInts], ?_, ?_⟩
  · intro v hv
    simp only [firstInts, Array.toList_ofFn, List.mem_ofFn] at hv
    obtain ⟨i, hi⟩ := hv
    subst hi
    have := h.1 i.1 i.2
    omega
  · simp only [firstInts, Array.toList_ofFn]
    unfold List.Nodup
    rw [List.pairwise_iff_getElem]
    intro i j hi hj hij
    simp only [List.getElem_ofFn]
    intro heq
    simp only [List.length_ofFn] at hi hj
    have := h.2 i j hi hj (by exact_mod_cast heq)
    omega

theorem permOn_comp {n : Nat} {p q : Array Nat} (hp : PermOn n p) (hq : PermOn n q) :
    PermOn n (Array.ofFn (n := n) (fun i => getN q (getN p i.1))) := by
  constructor
  · intro i hi
    rw [getN_ofFn hi]
    exact hq.1 _ (hp.1 i hi)
  · intro i j hi hj h
    rw [getN_ofFn hi, getN_ofFn hj] at h
    exact hp.2 i j hi hj (hq.2 _ _ (hp.1 i hi) (hp.1 j hj) h)

theorem po_last (kd : Nat → List Nat) (f v : Nat) : ∃ l, po kd f v = l ++ [v] := by
  cases f with
  | zero => exact ⟨[], rfl⟩
  | succ f => exact ⟨_, rfl⟩

/-- the postorder list of the whole forest (dummy root last) -/
def poAll (n : Nat) (parent : Array Nat) (rank : Nat → Nat) : List Nat :=
  po (kids (getN parent) n) (rank n) n

section main
variable {n : Nat} {parent : Array Nat} {rank : Nat → Nat}

theorem mem_poAll (c : FCtx (getN parent) n rank) {x : Nat} : x ∈ poAll n parent rank ↔ x ≤ n := by
  unfold poAll
  rw [(po_root_perm c).mem_iff, List.mem_range]
  omega

theorem treePostorder_size (c : FCtx (getN parent) n rank) : (treePostorder n parent).size = n + 1 := by
  rw [treePostorder_eq c, numberAll_size]
  simp

/-- `post[x]` is the position of `x` in the postorder list -/
theorem post_at (c : FCtx (getN parent) n rank) {i x : Nat} (h : (poAll n parent rank)[i]? = some x) :
    getN (treePostorder n parent) x = i := by
  have hx := (mem_poAll c).1 (List.mem_of_getElem? h)
  rw [treePostorder_eq c, numberAll_at _ _ 0 i x (po_nodup c) h (by simp; omega), Nat.zero_add]

theorem poAll_length (c : FCtx (getN parent) n rank) : (poAll n parent rank).length = n + 1 := po_root_length c

theorem pos_of_le (c : FCtx (getN parent) n rank) {x : Nat} (hx : x ≤ n) :
    ∃ i, i ≤ n ∧ (poAll n parent rank)[i]? = some x := by
  obtain ⟨i, hi, e⟩ := List.getElem_of_mem ((mem_poAll c).2 hx)
  exact ⟨i, by rw [poAll_length c] at hi; omega, by rw [List.getElem?_eq_getElem hi, e]⟩

theorem post_le (c : FCtx (getN parent) n rank) {x : Nat} (hx : x ≤ n) : getN (treePostorder n parent) x ≤ n := by
  obtain ⟨i, hi, h⟩ := pos_of_le c hx
  rw [post_at c h]
  exact hi

theorem post_inj (c : FCtx (getN parent) n rank) {x y : Nat} (hx : x ≤ n) (hy : y ≤ n)
    (h : getN (treePostorder n parent) x = getN (treePostorder n parent) y) : x = y := by
  obtain ⟨i, _, hi⟩ := pos_of_le c hx
  obtain ⟨j, _, hj⟩ := pos_of_le c hy
  rw [post_at c hi, post_at c hj] at h
  rw [h, hj] at hi
  exact (Option.some.inj hi).symm

/-- subtree of `v` = the vertices numbered `a .. post[v]`, `s` of them -/
theorem post_seg (c : FCtx (getN parent) n rank) {v : Nat} (hv : v ≤ n) :
    ∃ a s, 1 ≤ s ∧ getN (treePostorder n parent) v + 1 = a + s ∧
      ∀ x, x ≤ n → (Desc (getN parent) n v x ↔
        (a ≤ getN (treePostorder n parent) x ∧
          getN (treePostorder n parent) x ≤ getN (treePostorder n parent) v)) := by
  obtain ⟨A, B, hAB⟩ := po_segment c (Nat.le_refl _) ((mem_poAll c).2 hv)
  have hnd : (poAll n parent rank).Nodup := po_nodup c
  obtain ⟨S, hS⟩ := po_last (kids (getN parent) n) (rank v) v
  have hpv : getN (treePostorder n parent) v = A.length + S.length := by
    apply post_at c
    rw [show poAll n parent rank = _ from hAB, hS, List.getElem?_append_left (by simp),
      List.getElem?_append_right (by omega), Nat.add_sub_cancel_left, List.getElem?_concat_length]
  refine ⟨A.length, S.length + 1, by omega, by omega, fun x hx => ?_⟩
  obtain ⟨i, _, hi⟩ := pos_of_le c hx
  rw [post_at c hi, hpv, ← mem_po_iff c (Nat.le_refl _)]
  rw [show poAll n parent rank = _ from hAB] at hi hnd
  rw [getElem?_block hnd hi, hS]
  simp only [List.length_append, List.length_singleton]
  omega

theorem post_root (c : FCtx (getN parent) n rank) : getN (treePostorder n parent) n = n := by
  obtain ⟨l, hl⟩ := po_last (kids (getN parent) n) (rank n) n
  have hlen := po_root_length c
  apply post_at c
  rw [show poAll n parent rank = _ from hl]
  rw [hl, List.length_append, List.length_singleton] at hlen
  rw [show n = l.length by omega]
  exact List.getElem?_concat_length

theorem post_permOn (c : FCtx (getN parent) n rank) : PermOn n (treePostorder n parent) :=
  ⟨fun _ hi => Nat.lt_of_le_of_ne (post_le c (Nat.le_of_lt hi)) fun h =>
      Nat.ne_of_lt hi (post_inj c (Nat.le_of_lt hi) (Nat.le_refl _) (h.trans (post_root c).symm)),
    fun _ _ hi hj => post_inj c (Nat.le_of_lt hi) (Nat.le_of_lt hj)⟩

theorem post_inverse (c : FCtx (getN parent) n rank) :
    ∃ g : Nat → Nat, (∀ x, x < n → g x < n ∧ getN (treePostorder n parent) (g x) = x) ∧
      (∀ v, v < n → g (getN (treePostorder n parent) v) = v) := by
  refine ⟨fun i => (poAll n parent rank)[i]?.getD 0, fun i hi => ?_, fun v hv => ?_⟩
  · have hlt : i < (poAll n parent rank).length := by rw [poAll_length c]; omega
    have h := List.getElem?_eq_getElem hlt
    have hp := post_at c h
    have hle := (mem_poAll c).1 (List.getElem_mem hlt)
    dsimp only
    rw [h, Option.getD_some]
    refine ⟨Nat.lt_of_le_of_ne hle fun e => ?_, hp⟩
    rw [e, post_root c] at hp
    omega
  · obtain ⟨i, _, hi⟩ := pos_of_le c (Nat.le_of_lt hv)
    dsimp only
    rw [post_at c hi, hi, Option.getD_some]

end main

end Slu.Pre
