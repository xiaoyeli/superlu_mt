/- Folds over lists and `List.range`, sums of prefixes, counting and positions (`getElem?`), induction up a bounded rank.
   Model-free, core only. -/
namespace Slu

theorem foldl_range_inv {α : Type} (f : α → Nat → α) (I : Nat → α → Prop) (init : α) (n : Nat)
    (h0 : I 0 init) (hstep : ∀ k a, k < n → I k a → I (k + 1) (f a k)) :
    I n ((List.range n).foldl f init) := by
  induction n with
  | zero => exact h0
  | succ n ih =>
    rw [List.range_succ, List.foldl_append]
    exact hstep n _ (Nat.lt_succ_self n) (ih fun k a hk => hstep k a (Nat.lt_succ_of_lt hk))

theorem foldl_range_succ {σ : Type} (f : σ → Nat → σ) (a : σ) (n : Nat) :
    (List.range (n + 1)).foldl f a = f ((List.range n).foldl f a) n := by
  rw [List.range_succ, List.foldl_append]; rfl

theorem foldl_pair {σ τ β : Type} (f : σ → β → σ) (g : τ → β → τ) (a : σ) (b : τ) (l : List β) :
    l.foldl (fun (st : σ × τ) x => (f st.1 x, g st.2 x)) (a, b) = (l.foldl f a, l.foldl g b) := by
  induction l generalizing a b with
  | nil => rfl
  | cons x t ih => exact ih _ _

/-- the doubly nested `for i < m, for j in rowptr[i] .. rowptr[i+1]-1` loop as one sweep over positions -/
theorem foldl_nested_inv {σ : Type} (rp : Nat → Nat) (m : Nat) (hmono : ∀ i < m, rp i ≤ rp (i + 1))
    (P : Nat → σ → Prop) (body : σ → Nat → Nat → σ) (s0 : σ) (h0 : P (rp 0) s0)
    (hs : ∀ i < m, ∀ p, rp i ≤ p → p < rp (i + 1) → ∀ s, P p s → P (p + 1) (body s i p)) :
    P (rp m) ((List.range m).foldl
      (fun s i => (List.range (rp (i + 1) - rp i)).foldl (fun s k => body s i (rp i + k)) s) s0) := by
  refine foldl_range_inv _ (fun i s => P (rp i) s) s0 m h0 ?_
  intro i s hi hP
  have key := foldl_range_inv (fun s k => body s i (rp i + k)) (fun k s => P (rp i + k) s) s
    (rp (i + 1) - rp i) (by simpa using hP) (by
      intro k s' hk hP'
      exact hs i hi (rp i + k) (by omega) (by omega) s' hP')
  have e : rp i + (rp (i + 1) - rp i) = rp (i + 1) := by have := hmono i hi; omega
  rw [e] at key
  exact key

theorem foldl_keeps {σ β γ} (π : σ → γ) (g : σ → β → σ) (hg : ∀ s x, π (g s x) = π s) {L : List β} {s : σ} :
    π (L.foldl g s) = π s := by
  induction L generalizing s with
  | nil => rfl
  | cons x xs ih => exact ih.trans (hg s x)

theorem flatMap_congr_mem {α β : Type} {l : List α} {f g : α → List β} (h : ∀ a ∈ l, f a = g a) :
    l.flatMap f = l.flatMap g := by
  rw [List.flatMap_def, List.flatMap_def, List.map_congr_left h]

theorem eq_map_range {α : Type} {l : List α} {n : Nat} {f : Nat → α} (hn : l.length = n)
    (h : ∀ i < n, l[i]? = some (f i)) : l = (List.range n).map f := by
  apply List.ext_getElem (by rw [hn, List.length_map, List.length_range])
  intro i h1 _
  rw [List.getElem_map, List.getElem_range]
  exact Option.some.inj ((List.getElem?_eq_getElem h1).symm.trans (h i (hn ▸ h1)))

theorem sum_take_succ (l : List Nat) (k : Nat) (hk : k < l.length) :
    (l.take (k + 1)).sum = (l.take k).sum + l.getD k 0 := by
  rw [List.take_add_one, List.sum_append, List.getD_eq_getElem?_getD, List.getElem?_eq_getElem hk]
  simp

theorem sum_take_mono (l : List Nat) {a b : Nat} (h : a ≤ b) : (l.take a).sum ≤ (l.take b).sum := by
  obtain ⟨d, rfl⟩ := Nat.exists_eq_add_of_le h
  rw [List.take_add, List.sum_append]
  exact Nat.le_add_right _ _

theorem two_le_countP {α : Type} {p : α → Bool} {l : List α} {i j : Nat} {a b : α} (hij : i ≠ j)
    (hi : l[i]? = some a) (hj : l[j]? = some b) (ha : p a = true) (hb : p b = true) : 2 ≤ l.countP p := by
  have key : ∀ {i j : Nat} {a b : α}, i < j → l[i]? = some a → l[j]? = some b → p a = true → p b = true →
      2 ≤ l.countP p := by
    intro i j a b h hi hj ha hb
    -- split the list at the later position: one hit on each side
    rw [← List.take_append_drop j l, List.countP_append]
    have h1 := List.countP_pos_iff.2 ⟨a, List.mem_of_getElem? ((List.getElem?_take_of_lt h).trans hi), ha⟩
    have h2 := List.countP_pos_iff.2 ⟨b, List.mem_of_getElem? (i := 0) (List.getElem?_drop.trans hj), hb⟩
    omega
  rcases Nat.lt_or_gt_of_ne hij with h | h
  · exact key h hi hj ha hb
  · exact key h hj hi hb ha

theorem eq_of_nodup_map {α β : Type} {f : α → β} {l : List α} (h : (l.map f).Nodup) {a b : α} (ha : a ∈ l) (hb : b ∈ l)
    (hab : f a = f b) : a = b :=
  have hp := List.pairwise_map.1 h
  List.Pairwise.forall_of_forall_of_flip (R := fun a b => f a = f b → a = b) (fun _ _ _ => rfl)
    (hp.imp fun hne e => absurd e hne) (hp.imp fun hne e => absurd e.symm hne) ha hb hab

/-- in a duplicate-free list the middle block of `A ++ T ++ B` is what stands at the positions `|A| .. |A|+|T|-1` -/
theorem getElem?_block {A T B : List Nat} (hnd : (A ++ T ++ B).Nodup) {i x : Nat}
    (h : (A ++ T ++ B)[i]? = some x) : x ∈ T ↔ A.length ≤ i ∧ i < A.length + T.length := by
  constructor
  · intro hx
    obtain ⟨j, hj, e⟩ := List.getElem_of_mem hx
    have h' : (A ++ T ++ B)[A.length + j]? = some x := by
      rw [List.getElem?_append_left (by simp; omega), List.getElem?_append_right (by omega),
        Nat.add_sub_cancel_left, List.getElem?_eq_getElem hj, e]
    have := (List.getElem?_inj (List.getElem?_eq_some_iff.1 h).1 hnd).1 (h.trans h'.symm)
    omega
  · rintro ⟨h1, h2⟩
    rw [List.getElem?_append_left (by simp; omega), List.getElem?_append_right h1] at h
    exact List.mem_of_getElem? h

/-- the ranks of `0..m` are bounded: to prove `C i` one may assume `C j` for every `j ≤ m` of larger rank -/
theorem rank_induction {m : Nat} (rank : Nat → Nat) {C : Nat → Prop}
    (step : ∀ i, i ≤ m → (∀ j, j ≤ m → rank i < rank j → C j) → C i) : ∀ i, i ≤ m → C i := by
  have hR : ∀ k, ∃ R, ∀ u, u ≤ k → rank u ≤ R := by
    intro k
    induction k with
    | zero => exact ⟨rank 0, fun u hu => by rw [Nat.le_zero.1 hu]; exact Nat.le_refl _⟩
    | succ k ih =>
        obtain ⟨R, hR⟩ := ih
        refine ⟨max R (rank (k + 1)), fun u hu => ?_⟩
        rcases Nat.le_succ_iff.1 hu with h | h
        · exact Nat.le_trans (hR u h) (Nat.le_max_left _ _)
        · rw [h]; exact Nat.le_max_right _ _
  obtain ⟨R, hR⟩ := hR m
  have : ∀ k i, i ≤ m → R - rank i ≤ k → C i := by
    intro k
    induction k with
    | zero => exact fun i hi hk => step i hi fun j hj hlt => by have := hR j hj; omega
    | succ k ih => exact fun i hi hk => step i hi fun j hj hlt => ih j hj (by omega)
  exact fun i hi => this _ i hi (Nat.le_refl _)

end Slu
