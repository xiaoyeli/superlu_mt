/- a topological renumbering of the elimination tree (in particular a postorder) is an equivalent reordering:
   filled graph and elimination tree of the renumbered graph are the renumbered ones. -/
import SluVerif.Proofs.Fill
namespace Slu.Pre

theorem desc_proper {par : Nat → Nat} {n a b : Nat} (h : Desc par n a b) (hne : a ≠ b) :
    b < n ∧ Desc par n a (par b) := by
  cases h with
  | refl => exact absurd rfl hne
  | step hx h' => exact ⟨hx, h'⟩

/-- a renumbering `q` of `0..n-1` (inverse `g`, `q n = n`) that numbers every vertex before its etree parent, and
the renumbered graph `G'` -/
structure Reorder (G G' : Nat → Nat → Bool) (n : Nat) (par : Nat → Nat) (q g : Nat → Nat) : Prop where
  hs : ∀ a b, G a b = G b a
  hs' : ∀ a b, G' a b = G' b a
  he : IsEtree G n par
  qlt : ∀ v, v < n → q v < n
  glt : ∀ x, x < n → g x < n
  gq : ∀ v, v < n → g (q v) = v
  qg : ∀ x, x < n → q (g x) = x
  qn : q n = n
  topo : ∀ v, v < n → q v < q (par v)
  graph : ∀ a b, a < n → b < n → G' (q a) (q b) = G a b

section reorder
variable {G G' : Nat → Nat → Bool} {n : Nat} {par q g : Nat → Nat}

theorem Reorder.q_desc (R : Reorder G G' n par q g) {a b : Nat} (h : Desc par n a b) (hne : a ≠ b) : q b < q a := by
  induction h with
  | refl => exact absurd rfl hne
  | @step x hx h' ih =>
      have h1 := R.topo x hx
      by_cases hax : a = par x
      · rw [hax]
        exact h1
      · have := ih hax
        omega

theorem Reorder.q_inj (R : Reorder G G' n par q g) {a b : Nat} (ha : a < n) (hb : b < n) (h : q a = q b) : a = b := by
  have := congrArg g h
  rwa [R.gq a ha, R.gq b hb] at this

/-- a fill edge joins a vertex with an ancestor: the end numbered later, which is also the larger one -/
theorem Reorder.fill_anc (R : Reorder G G' n par q g) {a b : Nat} (ha : a < n) (hb : b < n)
    (hF : fill G n a b = true) (hq : q b < q a) : Desc par n a b ∧ b < a := by
  rcases Nat.lt_trichotomy a b with hlt | heq | hgt
  · -- then b would be an ancestor of a, numbered later
    have hd := etree_anc R.hs R.he (by rw [fill_symm R.hs]; exact hF) hlt hb
    have := R.q_desc hd (by omega)
    omega
  · subst heq
    omega
  · exact ⟨etree_anc R.hs R.he hF hgt ha, hgt⟩

theorem fill_of_subtree (hs : ∀ a b, G a b = G b a) (he : IsEtree G n par) {a b i : Nat}
    (hG : G a i = true) (hd : Desc par n b i) (hba : b < a) (han : a < n) : fill G n a b = true := by
  have hib := desc_le he hd
  exact row_subtree_bwd hs he hd (fill_mono (Nat.zero_le _) hG) (by omega) hba han

/-- every fill edge of the renumbered graph is one of the original graph -/
theorem Reorder.fill_fwd (R : Reorder G G' n par q g) :
    ∀ t a b, a < n → b < n → fill G' t (q a) (q b) = true → fill G n a b = true := by
  intro t
  induction t with
  | zero =>
      intro a b ha hb h
      have : G a b = true := by
        rw [← R.graph a b ha hb]
        exact h
      exact fill_mono (Nat.zero_le _) this
  | succ t ih =>
      intro a b ha hb h
      rcases (fill_succ_iff G' t _ _).1 h with h' | ⟨h1, h2, h3, h4, h5⟩
      · exact ih a b ha hb h'
      · -- the eliminated vertex is `t = q (g t)`
        have htn : t < n := by
          have := R.qlt a ha
          omega
        have hx := R.glt t htn
        have hqx := R.qg t htn
        have h4' : fill G' t (q a) (q (g t)) = true := by
          rw [hqx]
          exact h4
        have h5' : fill G' t (q (g t)) (q b) = true := by
          rw [hqx]
          exact h5
        have h1' : q (g t) < q a := by
          rw [hqx]
          exact h1
        have h2' : q (g t) < q b := by
          rw [hqx]
          exact h2
        have Fa := ih a (g t) ha hx h4'
        have Fb := ih (g t) b hx hb h5'
        rw [fill_symm R.hs] at Fb
        obtain ⟨da, xa⟩ := R.fill_anc ha hx Fa h1'
        obtain ⟨db, xb⟩ := R.fill_anc hb hx Fb h2'
        have hab : a ≠ b := fun e => h3 (by rw [e])
        -- `a` and `b` are ancestors of `g t`, so one is an ancestor of the other
        have key : ∀ c d, c < n → Desc par n c d → c ≠ d → fill G n c (g t) = true → g t < c →
            Desc par n d (g t) → fill G n c d = true := by
          intro c d hc hdcd hne Fc xc dd
          have hdc : d < c := by
            have := desc_le R.he hdcd
            omega
          obtain ⟨i, _, hGi, hdi⟩ := row_subtree_fwd R.hs R.he Fc xc hc
          exact fill_of_subtree R.hs R.he hGi (dd.trans hdi) hdc hc
        rcases Desc.chain da db with hd | hd
        · exact key a b ha hd hab Fa xa db
        · rw [fill_symm R.hs]
          exact key b a hb hd (fun e => hab e.symm) Fb xb da

/-- a fill edge `(a, b)` of the original graph, given as `row_subtree_fwd` gives it (an original entry `(a, i)`
in the subtree of `b`), is one of the renumbered graph; strong induction on `b` -/
theorem Reorder.fill_bwd (R : Reorder G G' n par q g) {a b i : Nat} (hba : b < a) (han : a < n)
    (hG : G a i = true) (hd : Desc par n b i) : fill G' n (q a) (q b) = true := by
  induction b using Nat.strongRecOn generalizing a i with
  | _ b ih =>
      have hFab : fill G n a b = true := fill_of_subtree R.hs R.he hG hd hba han
      have hdab : Desc par n a b := etree_anc R.hs R.he hFab hba han
      -- the fill edge moves from `(a, i)` up the path from `i` to `b`
      have climb : ∀ x, Desc par n b x → fill G' n (q a) (q x) = true → fill G' n (q a) (q b) = true := by
        intro x hdx
        induction hdx with
        | refl => exact id
        | @step x hx hdp ihx =>
            intro hFx
            apply ihx
            have hpb := desc_le R.he hdp
            have hxp := (R.he x hx).1
            have hpn : par x < n := by omega
            -- the parent edge `(p, x)`, `p = par x`, is a fill edge of `G`, hence (induction, `x < b`) of `G'`
            have hFpx : fill G n (par x) x = true := (R.he x hx).2.2.1 hpn
            obtain ⟨i', _, hGi', hdi'⟩ := row_subtree_fwd R.hs R.he hFpx hxp hpn
            have hF'px := ih x (by omega) hxp hpn hGi' hdi'
            -- `x` is numbered before `p` and `a`, and `p ≠ a`: eliminating `q x` joins `q a` and `q p`
            have hq1 := R.topo x hx
            have hq2 : q x < q a := by
              have h1 : Desc par n a x := hdab.trans (Desc.step hx hdp)
              exact R.q_desc h1 (by omega)
            have hne : q a ≠ q (par x) := by
              intro e
              have := R.q_inj han hpn e
              omega
            have hqx := R.qlt x hx
            have e1 : fill G' (q x) (q a) (q x) = true :=
              fill_of_later (Or.inr (Nat.le_refl _)) (by omega) hFx
            have e2 : fill G' (q x) (q x) (q (par x)) = true := by
              rw [fill_symm R.hs']
              exact fill_of_later (Or.inr (Nat.le_refl _)) (by omega) hF'px
            exact fill_mono (by omega)
              ((fill_succ_iff G' (q x) _ _).2 (Or.inr ⟨hq2, hq1, hne, e1, e2⟩))
      apply climb i hd
      have hin : i < n := by
        have := desc_le R.he hd
        omega
      have : G' (q a) (q i) = true := by
        rw [R.graph a i han hin]
        exact hG
      exact fill_mono (Nat.zero_le _) this

theorem Reorder.fill_eq (R : Reorder G G' n par q g) {a b : Nat} (ha : a < n) (hb : b < n) :
    fill G' n (q a) (q b) = fill G n a b := by
  rw [Bool.eq_iff_iff]
  constructor
  · exact R.fill_fwd n a b ha hb
  · intro hF
    have key : ∀ c d, c < n → d < c → fill G n c d = true → fill G' n (q c) (q d) = true := by
      intro c d hc hdc hFcd
      obtain ⟨i, _, hGi, hdi⟩ := row_subtree_fwd R.hs R.he hFcd hdc hc
      exact R.fill_bwd hdc hc hGi hdi
    rcases Nat.lt_trichotomy a b with hlt | heq | hgt
    · rw [fill_symm R.hs']
      exact key b a hb hlt (by rw [fill_symm R.hs]; exact hF)
    · subst heq
      -- a self loop of the filled graph is an original self loop
      have hGa : G a a = true := by
        rcases fill_origin hF with h0 | ⟨s, _, _, _, hne, _⟩
        · exact h0
        · exact absurd rfl hne
      have h0 : G' (q a) (q a) = true := by
        rw [R.graph a a ha ha]
        exact hGa
      exact fill_mono (Nat.zero_le _) h0
    · exact key a b ha hgt hF

theorem Reorder.isEtree (R : Reorder G G' n par q g) : IsEtree G' n (fun x => q (par (g x))) := by
  intro j' hj'
  show j' < q (par (g j')) ∧ q (par (g j')) ≤ n ∧
      (q (par (g j')) < n → fill G' n (q (par (g j'))) j' = true) ∧
    ∀ i, j' < i → i < q (par (g j')) → fill G' n i j' = false
  have hj := R.glt j' hj'
  have hqj := R.qg j' hj'
  obtain ⟨a1, a2, a3, a4⟩ := R.he (g j') hj
  have hq1 := R.topo (g j') hj
  rw [hqj] at hq1
  have hqle : q (par (g j')) ≤ n := by
    by_cases hp : par (g j') = n
    · rw [hp, R.qn]
      exact Nat.le_refl _
    · exact Nat.le_of_lt (R.qlt _ (by omega))
  refine ⟨hq1, hqle, fun hlt => ?_, fun i' hi1 hi2 => ?_⟩
  · have hpn : par (g j') < n := Nat.lt_of_le_of_ne a2 fun hp => by
      rw [hp, R.qn] at hlt
      omega
    have := R.fill_eq hpn hj
    rw [hqj] at this
    rw [this]
    exact a3 hpn
  · have hi'n : i' < n := Nat.lt_of_lt_of_le hi2 hqle
    have hi := R.glt i' hi'n
    have hqi := R.qg i' hi'n
    cases hF : fill G' n i' j' with
    | false => rfl
    | true =>
        exfalso
        rw [← hqi, ← hqj, R.fill_eq hi hj] at hF
        obtain ⟨hd, hlt⟩ := R.fill_anc hi hj hF (by rw [hqi, hqj]; exact hi1)
        -- g i' is a proper ancestor of g j', hence an ancestor of its parent
        obtain ⟨_, hd'⟩ := desc_proper hd (by omega)
        by_cases hip : g i' = par (g j')
        · rw [← hip, hqi] at hi2
          omega
        · have := R.q_desc hd' hip
          omega

end reorder

end Slu.Pre
