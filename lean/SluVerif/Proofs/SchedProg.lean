/-
Progress (no deadlock, no lost wake-up): a second inductive invariant `ProgInv` about the column flags (`spin_locks`),
`fb_cols`, the `bcol` of each worker and the availability of runnable panels in the queue, and `progress`.
-/
import SluVerif.Proofs.SchedProgLemmas
import SluVerif.Proofs.SchedInvSched

namespace Slu
open Slu.Gen
open Classical

structure ProgInv (K : Cfg) (Q : ColCfg) (s : Sys) : Prop where
  spin_sz : s.sh.spin.size = K.c.n
  fb_sz : s.sh.fb.size = K.c.n + 1
  size_eq : ∀ p ∈ K.panels, (getZ s.sh.size p).toNat = Q.wd p
  spin_busy : ∀ k, k < K.c.n → getN s.sh.spin k ≠ 0 → stt s (Q.pan k) = BUSY
  fb_desc : ∀ d ∈ K.panels, getN s.sh.fb d ∈ K.panels ∧ Desc K (getN s.sh.fb d) d
  wb_desc : ∀ i p b, (wk s i).phase = .working p b → b ∈ K.panels ∧ Desc K b p
  exited : ∀ i, i < s.ws.size → (wk s i).phase = .exited → s.sh.tasksRemain ≤ 0
  /-- no lost wake-up -/
  avail : ∀ p ∈ K.panels, stt s p > BUSY → ukd s p = 0 → ∃ k, s.sh.head ≤ k ∧ k < s.sh.tail ∧ getN s.sh.queue k = p

theorem progInv_loop (K : Cfg) (Q : ColCfg) (s : Sys) (pinv : ProgInv K Q s) (w : Nat)
    (h : enabled K.c s (.loop w) = true) : ProgInv K Q (step K.c s (.loop w)) := by
  obtain ⟨ws', e, E⟩ := loop_effect K.c s w h
  rw [e]
  refine { pinv with wb_desc := ?wb_desc, exited := ?exited }
  case wb_desc =>
    simpa only [E.working_iff] using pinv.wb_desc
  case exited =>
    -- a worker exits only after having read `tasks_remain ≤ 0`
    intro i hi hp
    by_cases ew : i = w
    · rw [ew, E.phase] at hp
      split at hp
      · cases hp
      · next ht => exact not_lt.1 ht
    · rw [E.wk_other i ew] at hp
      exact pinv.exited i (E.wsz ▸ hi) hp

theorem progInv_finish (K : Cfg) (W : CfgWF K) (Q : ColCfg) (C : ColWF K Q) (s : Sys) (inv : SysInv K s) (pinv : ProgInv K Q s) (w : Nat)
    (h : enabled K.c s (.finish w) = true) : ProgInv K Q (step K.c s (.finish w)) := by
  obtain ⟨p, b, ws', e, E⟩ := finish_effect K.c s w h
  rw [e]
  obtain ⟨_, _, hpp, hst, _⟩ := finish_facts W inv E
  have hord := state_order
  have hnw : ∀ i ph, (wk ⟨finishPanel s.sh p, ws'⟩ i).phase = ph → ph ≠ .head → (wk s i).phase = ph := by
    intro i ph hp hne
    by_cases ew : i = w
    · rw [ew, E.phase] at hp; exact absurd hp.symm hne
    · rw [E.wk_other i ew] at hp; exact hp
  refine { pinv with
    spin_sz := (fillN_size _ _ _ _).trans pinv.spin_sz, spin_busy := ?spin_busy,
    wb_desc := fun i p' b' hp' => pinv.wb_desc i p' b' (hnw i _ hp' (by simp)),
    exited := fun i hi hp' => pinv.exited i (E.wsz ▸ hi) (hnw i _ hp' (by simp)), avail := ?avail }
  case spin_busy =>
    intro k hk hs
    have hs : getN (fillN s.sh.spin p (getZ s.sh.size p).toNat 0) k ≠ 0 := hs
    rw [pinv.size_eq p hpp, getN_fillN _ _ _ _ _ (by rw [pinv.spin_sz]; exact C.cols_lt p hpp)] at hs
    split at hs
    · exact absurd rfl hs
    · next hin =>
      rw [hst, if_neg (fun (e : Q.pan k = p) => hin (e ▸ C.pan_rng k hk))]
      exact pinv.spin_busy k hk hs
  case avail =>
    intro x hx hs hu
    rw [hst] at hs
    split at hs
    · omega
    · exact pinv.avail x hx hs hu

theorem progInv_sched (K : Cfg) (W : CfgWF K) (Q : ColCfg) (C : ColWF K Q) (s : Sys) (inv : SysInv K s) (pinv : ProgInv K Q s) (w : Nat)
    (h : enabled K.c s (.sched w) = true) : ProgInv K Q (step K.c s (.sched w)) := by
  obtain ⟨got, b, E⟩ := sched_effect K W s inv w h
  have hdad' : ∀ j, dadPanel K.c (step K.c s (.sched w)).sh j = K.dad j :=
    fun j => by rw [dadPanel_congr K.c _ s.sh E.size_eq]; exact inv.dad_eq j
  generalize step K.c s (.sched w) = s' at E hdad' ⊢
  have hord := state_order
  have hb : ∀ j, got = some j → b ∈ K.panels ∧ Desc K b j := by
    intro j hj
    obtain ⟨f1, f2⟩ := pinv.fb_desc j (E.got_pan j hj)
    rw [(E.flags_some j hj).2.2]
    exact climb_desc K W s' hdad' j (by have := (E.took hj).2; omega) (K.c.n + 1) _ f1 f2
  refine {
    spin_sz := ?spin_sz, fb_sz := ?fb_sz, size_eq := fun p hp => by rw [E.size_eq]; exact pinv.size_eq p hp,
    spin_busy := ?spin_busy, fb_desc := ?fb_desc, wb_desc := ?wb_desc, exited := ?exited, avail := ?avail }
  case spin_sz =>
    cases hg : got with
    | none => rw [(E.flags_none hg).1]; exact pinv.spin_sz
    | some j => rw [(E.flags_some j hg).1, fillN_size]; exact pinv.spin_sz
  case fb_sz =>
    cases hg : got with
    | none => rw [(E.flags_none hg).2]; exact pinv.fb_sz
    | some j => rw [(E.flags_some j hg).2.1, Array.size_setIfInBounds]; exact pinv.fb_sz
  case spin_busy =>
    intro k hk hs
    have hold : getN s.sh.spin k ≠ 0 → stt s' (Q.pan k) = BUSY := fun hs => by
      have := pinv.spin_busy k hk hs
      rw [E.le_same (by omega)]; exact this
    cases hg : got with
    | none => rw [(E.flags_none hg).1] at hs; exact hold hs
    | some j =>
      have hjp := E.got_pan j hg
      rw [(E.flags_some j hg).1, pinv.size_eq j hjp,
        getN_fillN _ _ _ _ _ (by rw [pinv.spin_sz]; exact C.cols_lt j hjp)] at hs
      split at hs
      · next hin => rw [C.pan_cols j hjp k hin.1 hin.2]; exact (E.took hg).2
      · exact hold hs
  case fb_desc =>
    intro d hd
    cases hg : got with
    | none => rw [(E.flags_none hg).2]; exact pinv.fb_desc d hd
    | some j =>
      rw [(E.flags_some j hg).2.1,
        getN_set _ _ _ _ (by rw [pinv.fb_sz]; have := (W.dad_gt j (E.got_pan j hg)).2; omega)]
      split
      · next e => exact ⟨(hb j hg).1, e ▸ desc_up K (hb j hg).2 (E.got_pan j hg) (e ▸ W.lt d hd)⟩
      · exact pinv.fb_desc d hd
  case wb_desc =>
    intro i p b' hp
    rcases (E.working_iff i p b').1 hp with ⟨_, hg, rfl⟩ | ⟨_, hp0⟩
    · exact hb p hg
    · exact pinv.wb_desc i p b' hp0
  case exited =>
    intro i hi hp
    have hiw : i ≠ w := by
      rintro rfl
      cases hg : got with
      | none => rw [E.wk_none hg] at hp; cases hp
      | some j => rw [E.wk_some j hg] at hp; cases hp
    rw [E.wk_other i hiw] at hp
    have := pinv.exited i (E.wsz ▸ hi) hp
    rw [E.tasks]; split <;> omega
  case avail =>
    intro p hp hs hu
    have hpg : got ≠ some p := fun e => by have := (E.took e).2; omega
    have hs0 : stt s p > BUSY := (E.gt_iff hpg).1 hs
    have huk := E.uk p
    rw [hu] at huk
    have hqsame : ∀ k, k < s.sh.tail → getN s'.sh.queue k = getN s.sh.queue k := by
      intro k hk
      rcases E.queue.2 with ⟨_, c⟩ | ⟨j, _, _, _, _, _, c, _⟩
      · rw [c]
      · rw [c, getN_set_ne (Nat.ne_of_lt hk)]
    have htail : s.sh.tail ≤ s'.sh.tail := by
      rcases E.queue.2 with ⟨a, _⟩ | ⟨j, _, _, _, _, a, _⟩ <;> rw [a]
      exact Nat.le_succ _
    -- the counter of `p` was 0 before the call as well
    have hu0 : ukd s p = 0 := by
      split at huk
      · next hc =>
        obtain ⟨q', hq', hpq⟩ := hc
        rcases E.how with ⟨q, hq1, hq2, _⟩ | ⟨hB, _⟩
        · rw [hq1] at hq'; cases hq'
          exact absurd (hpq ▸ hq2) hpg
        · exact absurd ⟨by rw [← hpq]; omega, hpq ▸ hs0⟩ (hB q' hq')
      · omega
    obtain ⟨k, k1, k2, k3⟩ := pinv.avail p hp hs0 hu0
    have hlive : ¬ stt s (getN s.sh.queue k) < CANGO := by rw [k3]; omega
    rcases E.how with ⟨q, _, _, _, hq4⟩ | ⟨_, ⟨_, hall⟩ | ⟨j, k0, hj, h1, h2, h3, h4, h5⟩⟩
    · exact ⟨k, hq4 ▸ k1, Nat.lt_of_lt_of_le k2 htail, by rw [hqsame k k2]; exact k3⟩
    · exact absurd (hall k k1 k2) hlive
    · -- the entry of `p` is live, so the loop cannot have passed it; and it is not the entry taken
      have hk0 : k0 ≤ k := Nat.not_lt.1 (fun hlt => hlive (h5 k k1 hlt))
      have hne : k0 ≠ k := fun e => hpg (by rw [hj, ← h3, e, k3])
      exact ⟨k, h4 ▸ Nat.succ_le_of_lt (Nat.lt_of_le_of_ne hk0 hne), Nat.lt_of_lt_of_le k2 htail,
        by rw [hqsame k k2]; exact k3⟩

theorem cur_some_lt_size (s : Sys) (i : Nat) (h : (wk s i).cur.isSome) : i < s.ws.size := by
  by_contra hc
  rw [wk_oob s i (by omega)] at h
  cases h

/-- the wait chain of the leftmost BUSY panel runs through panels to its left, and a flagged column belongs to a BUSY
panel -/
theorem leftmost_busy_released (K : Cfg) (W : CfgWF K) (Q : ColCfg) (C : ColWF K Q) (s : Sys) (pinv : ProgInv K Q s) {i p b : Nat}
    (hib : (wk s i).phase = .working p b) (hmin : ∀ m, m < p → ¬ (m ∈ K.panels ∧ stt s m = BUSY)) :
    chainReleased K.c s.sh p b = true := by
  unfold chainReleased
  split
  · rfl
  · rw [List.all_eq_true]
    intro x hx
    obtain ⟨hbp, hbd⟩ := pinv.wb_desc i p b hib
    obtain ⟨x1, x2, _⟩ :=
      waitChain_below K W Q C p (K.c.n + 1) b (W.lt b hbp) (by rw [pan_self K Q C b hbp]; exact hbd) x hx
    simp only [beq_iff_eq]
    by_contra hne
    have hr := C.pan_rng x x1
    exact hmin (Q.pan x) (by omega) ⟨C.pan_mem x x1, pinv.spin_busy x x1 hne⟩

/-- with no panel BUSY and nothing left to report, the leftmost untaken panel `m` has no unreported child, so its queue
entry is live and a call hands out a panel -/
theorem idle_handout (K : Cfg) (W : CfgWF K) (Q : ColCfg) (s : Sys) (inv : SysInv K s) (pinv : ProgInv K Q s)
    (hnb : ∀ p ∈ K.panels, stt s p ≠ BUSY) (hnone : ∀ i, (wk s i).cur = none) {m : Nat} (hm : m ∈ K.panels) (hms : stt s m > BUSY)
    (hmin : ∀ m', m' < m → ¬ (m' ∈ K.panels ∧ stt s m' > BUSY)) : (schedule K.c s.sh none 0).2.1.isSome := by
  have hord := state_order
  have hukd : ukd s m = 0 := by
    rw [inv.kids m (Or.inl hm)]
    refine congrArg Nat.cast (cnt_zero_iff.2 ?_)
    intro q hq ⟨hdq, hun⟩
    have hq1 : ¬ stt s q > BUSY := fun hgt => hmin q (by have := (W.dad_gt q hq).1; omega) ⟨hq, hgt⟩
    have hq2 := hnb q hq
    rcases hun with h1 | ⟨i, hi⟩
    · omega
    · rw [hnone i] at hi; cases hi
  obtain ⟨k, k1, k2, k3⟩ := pinv.avail m hm hms hukd
  have htl := queue_tail_le K W s inv
  rcases schedule_head K.c s.sh none 0 inv.qok (Nat.le_trans (Nat.sub_le _ _) (Nat.le_succ_of_le htl)) with
    ⟨q, hq, _⟩ | ⟨_, ⟨_, hall⟩ | ⟨j, _, hj, _⟩⟩
  · cases hq
  · exfalso
    have h1 : stt s m < CANGO := k3 ▸ hall k k1 k2
    omega
  · rw [hj]; rfl

/-- while some panel is unfinished, some worker can finish the panel it holds (its wait chain is released),
or — at the loop head with `tasks_remain > 0`, or about to call the scheduler — report a finished panel or be handed
one. -/
theorem progress (K : Cfg) (W : CfgWF K) (Q : ColCfg) (C : ColWF K Q) (s : Sys) (inv : SysInv K s) (pinv : ProgInv K Q s)
    (hnw : 0 < s.ws.size) (hnd : ∃ p ∈ K.panels, stt s p ≠ DONE) :
    (∃ i p b, (wk s i).phase = .working p b ∧ chainReleased K.c s.sh p b = true) ∨
    (∃ i, i < s.ws.size ∧ ((wk s i).phase = .calling ∨ ((wk s i).phase = .head ∧ s.sh.tasksRemain > 0)) ∧
          ((wk s i).cur.isSome ∨ (schedule K.c s.sh (wk s i).cur 0).2.1.isSome)) := by
  have hord := state_order
  by_cases hbusy : ∃ p, p ∈ K.panels ∧ stt s p = BUSY
  · left
    obtain ⟨hp, hst⟩ := Nat.find_spec hbusy
    obtain ⟨i, b, hib⟩ := inv.busy_owned _ hp hst
    exact ⟨i, _, b, hib, leftmost_busy_released K W Q C s pinv hib (fun m hm => Nat.find_min hbusy hm)⟩
  · -- no panel is being factored: some panel is untaken
    right
    have hnb : ∀ p ∈ K.panels, stt s p ≠ BUSY := fun p hp e => hbusy ⟨p, hp, e⟩
    obtain ⟨p0, hp0, hp0s⟩ := hnd
    have hunt : ∃ p, p ∈ K.panels ∧ stt s p > BUSY := ⟨p0, hp0, by have := hnb p0 hp0; omega⟩
    have htasks : s.sh.tasksRemain > 0 := by
      rw [inv.tasks]
      exact_mod_cast cnt_pos_iff.2 hunt
    have hphase : ∀ i, i < s.ws.size →
        ((wk s i).phase = .calling ∨ ((wk s i).phase = .head ∧ s.sh.tasksRemain > 0)) := by
      intro i hi
      cases hp : (wk s i).phase with
      | head => right; exact ⟨rfl, htasks⟩
      | calling => left; rfl
      | working p b =>
        exfalso
        obtain ⟨_, c2, c3⟩ := inv.own_w i p b hp
        exact hnb p c3 c2
      | exited =>
        exfalso
        have := pinv.exited i hi hp
        omega
    by_cases hc : ∃ i, (wk s i).cur.isSome
    · obtain ⟨i, hi⟩ := hc
      exact ⟨i, cur_some_lt_size s i hi, hphase i (cur_some_lt_size s i hi), Or.inl hi⟩
    · have hnone : ∀ i, (wk s i).cur = none := by
        intro i
        cases hci : (wk s i).cur with
        | none => rfl
        | some q => exact absurd ⟨i, by rw [hci]; rfl⟩ hc
      exact ⟨0, hnw, hphase 0 hnw, Or.inr (hnone 0 ▸ idle_handout K W Q s inv pinv hnb hnone
        (Nat.find_spec hunt).1 (Nat.find_spec hunt).2 (fun _ hm' => Nat.find_min hunt hm'))⟩

end Slu
