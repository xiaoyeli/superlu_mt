/- The header cards of `?readhb` / `?readrb`, each read from `card body trail ++ rest`: the form `writeHB f` and
`writeRB f` take under `List.append_assoc` alone. -/
import SluVerif.Proofs.ReadFormat
import SluVerif.Proofs.ReadSlice
namespace Slu.Read

theorem fmtInt14_field {k : Nat} (h : k < 2147483648) :
    (fmtInt 14 k).length = 14 ∧ atoiC (fmtInt 14 k) = some (k : Int) :=
  ⟨fmtInt_length (by have := natDigits_int32 h; omega), atoiC_fmtInt 14 h⟩

theorem x13_field {k : Nat} (h : k < 2147483648) : (x13 k).length = 14 ∧ atoiC (x13 k) = some (k : Int) := by
  have hl := natDigits_int32 h
  refine ⟨by simp [x13, fmtInt_length (w := 13) (k := k) (by omega)], ?_⟩
  have := atoiC_ws_natDigits (ws := ' ' :: blanks (13 - (natDigits k).length))
    (List.forall_mem_cons.mpr ⟨rfl, wsAll_blanks _⟩) h (rest := []) trivial
  rwa [List.append_nil] at this

theorem card_append (body trail rest : Str) : card body trail ++ rest = body ++ (trail ++ '\n' :: rest) := by
  simp [card]

theorem take14s_zero (s : Str) : take14s 0 s = some ([], s) := rfl

theorem take14s_one {f : Str} {v : Int} (hf : f.length = 14 ∧ atoiC f = some v) (s : Str) :
    take14s 1 (f ++ s) = some ([v], s) := by
  simp only [take14s, takeN_append (b := s) hf.1, hf.2]

theorem take14s_cons {f b : Str} {v : Int} {k : Nat} {vs : List Int} (hf : f.length = 14 ∧ atoiC f = some v)
    (h : ∀ s, take14s k (b ++ s) = some (vs, s)) (s : Str) :
    take14s (k + 1) (f ++ b ++ s) = some (v :: vs, s) := by
  simp only [take14s, List.append_assoc, takeN_append hf.1, hf.2, h]

theorem cardInts_card {k : Nat} {body : Str} {vs : List Int} (h : ∀ s, take14s k (body ++ s) = some (vs, s))
    (trail rest : Str) (hn : NoNL trail) : cardInts k (card body trail ++ rest) = some (vs, rest) := by
  simp only [cardInts, card_append, h, dumpLine_line hn]

theorem line3_card {ty pad body : Str} {vs : List Int} (hty : ty.length = 3) (hpad : pad.length = 11)
    (h : ∀ s, take14s 4 (body ++ s) = some (vs, s)) (trail rest : Str) (hn : NoNL trail) :
    line3 (card (ty ++ (pad ++ body)) trail ++ rest) = some (vs, rest) := by
  have := cardInts_card h trail rest hn
  rw [card_append] at this
  simp only [line3, card_append, List.append_assoc, takeN_append hty, takeN_append hpad, this]

theorem hbLine1_card (title key trail rest : Str) (ht : title.length = 72) (hk : key.length = 8) (hn : NoNL trail) :
    hbLine1 (card (title ++ key) trail ++ rest) = some (title, rest) := by
  simp only [hbLine1, card_append, List.append_assoc, takeN_append ht, takeN_append hk, dumpLine_line hn]

theorem fgets_card (title trail rest : Str) (ht : NoNL title) (hn : NoNL trail)
    (hl : title.length + trail.length ≤ 98) :
    fgets (card title trail ++ rest) = some (card title trail, rest) := by
  rw [card_append, ← List.append_assoc]
  exact fgets_line (title ++ trail) rest (noNL_append ht hn) (by simp; omega)

/-- `?ParseIntFormat` starts at the first `(`, so none may precede the descriptor's own; count and width are read by
`atoi`; the text fits its `A16` field. -/
def IntDesc.WF (d : IntDesc) : Prop :=
  (∀ x ∈ d.pre, (x == '(') = false) ∧ isI d.letter = true ∧ d.n < 2147483648 ∧ d.w < 2147483648 ∧ d.text.length ≤ 16

instance IntDesc.instDecidableWF (d : IntDesc) : Decidable d.WF := by unfold IntDesc.WF; infer_instance

theorem IntDesc.WF.len {d : IntDesc} (h : d.WF) : d.text.length ≤ 16 := h.2.2.2.2

/-- `tail`: whatever lies behind the `A16` / `A20` field in `buf`. -/
theorem IntDesc.WF.parse {d : IntDesc} (h : d.WF) (k : Nat) (tail : Str) :
    parseIntFormat (padRight k d.text ++ tail) = some ((d.n : Int), (d.w : Int)) := by
  obtain ⟨hpre, hI, hn, hw, -⟩ := h
  rw [padRight, List.append_assoc]
  exact parseIntFormat_text d _ hpre hI hn hw

theorem RealDesc.WF.parse {d : RealDesc} (h : d.WF) (k : Nat) (tail : Str) :
    parseFloatFormat (padRight k d.text ++ tail) = some ((d.n : Int), (d.w : Int)) := by
  rw [padRight, List.append_assoc]
  exact parseFloatFormat_text d _ h

theorem hbLine4_card (title : Str) (pd rd : IntDesc) (vd : RealDesc) (rhsfmt trail rest : Str)
    (hp : pd.WF) (hr : rd.WF) (hv : vd.WF) (hvl : vd.text.length ≤ 20) (hrl : rhsfmt.length = 20) (hn : NoNL trail) :
    hbLine4 title
        (card (padRight 16 pd.text ++ (padRight 16 rd.text ++ (padRight 20 vd.text ++ rhsfmt))) trail ++ rest) =
      some ((((pd.n : Int), (pd.w : Int)), ((rd.n : Int), (rd.w : Int)), ((vd.n : Int), (vd.w : Int))), rest) := by
  simp only [hbLine4, card_append, List.append_assoc, takeN_append (padRight_length hp.len), hp.parse,
    takeN_append (padRight_length hr.len), hr.parse, takeN_append (padRight_length hvl), hv.parse,
    takeN_append hrl, dumpLine_line hn]

theorem rbTail_of_le {l1 : Str} {k : Nat} (h : k ≤ l1.length) (fld : Str) : rbTail l1 k fld = some (l1.drop k) := by
  simp [rbTail, h]

/-- `?readrb` parses the descriptors with the tail of line 1 still behind them in `buf`: long enough here (`hl1`, for
the `A20` field). -/
theorem rbLine4_card (l1 : Str) (pd rd : IntDesc) (vd : RealDesc) (trail rest : Str)
    (hl1 : 20 ≤ l1.length)
    (hp : pd.WF) (hr : rd.WF) (hv : vd.WF) (hvl : vd.text.length ≤ 20) (hn : NoNL trail) :
    rbLine4 l1 (card (padRight 16 pd.text ++ (padRight 16 rd.text ++ padRight 20 vd.text)) trail ++ rest) =
      some ((((pd.n : Int), (pd.w : Int)), ((rd.n : Int), (rd.w : Int)), ((vd.n : Int), (vd.w : Int))), rest) := by
  simp only [rbLine4, card_append, List.append_assoc, takeN_append (padRight_length hp.len),
    rbTail_of_le (show 16 ≤ l1.length by omega), takeN_append (padRight_length hr.len), hp.parse,
    takeN_append (padRight_length hvl), hr.parse, rbTail_of_le hl1, hv.parse, dumpLine_line hn]

end Slu.Read
