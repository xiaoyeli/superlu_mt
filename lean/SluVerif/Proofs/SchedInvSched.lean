/-
Event `sched w` at system level: its complete effect on a state satisfying `SysInv` (`SchedEffect`), from which every
preservation proof for this event starts, and the preservation of `SysInv`.
-/
import SluVerif.Proofs.SchedInv

namespace Slu
open Slu.Gen
open Classical

/-- `got`: the panel handed out; `b`: the `bcol` returned with it -/
structure SchedEffect (K : Cfg) (s s' : Sys) (w : Nat) (got : Option Nat) (b : Nat) : Prop where
  calling : (wk s w).phase = .calling
  got_eq : (schedule K.c s.sh (wk s w).cur 0).2.1 = got
  b_eq : (schedule K.c s.sh (wk s w).cur 0).2.2 = b
  wk_cur : (wk s' w).cur = got
  wk_some : ∀ p, got = some p → (wk s' w).phase = .working p b
  wk_none : got = none → (wk s' w).phase = .head
  wk_other : ∀ i, i ≠ w → wk s' i = wk s i
  wsz : s'.ws.size = s.ws.size
  size_eq : s'.sh.size = s.sh.size
  typ_eq : s'.sh.typ = s.sh.typ
  ssz : s'.sh.state.size = K.c.n + 1
  usz : s'.sh.ukids.size = K.c.n + 1
  qok : QueueOk s'.sh
  uk : ∀ d, ukd s' d = ukd s d - (if ∃ q, (wk s w).cur = some q ∧ d = K.dad q then 1 else 0)
  tasks : s'.sh.tasksRemain = s.sh.tasksRemain - (if got.isSome then 1 else 0)
  got_pan : ∀ j, got = some j → j ∈ K.panels
  dad_unready : ∀ j, got = some j → K.dad j < K.c.n → stt s (K.dad j) = UNREADY
  /-- the panel handed out becomes BUSY; its parent, if this was its last unreported child, goes from UNREADY to
  CANPIPE; no other state changes -/
  state : ∀ p, (got = some p ∧ stt s p > BUSY ∧ stt s' p = BUSY) ∨
      (got ≠ some p ∧ stt s p = UNREADY ∧ stt s' p = CANPIPE ∧ ∃ j, got = some j ∧ p = K.dad j ∧ ukd s' p = 1) ∨
      (got ≠ some p ∧ stt s' p = stt s p)
  /-- exactly then is the parent appended to the queue -/
  queue : s'.sh.queue.size = K.c.n ∧ ((s'.sh.tail = s.sh.tail ∧ s'.sh.queue = s.sh.queue) ∨
      ∃ j, got = some j ∧ K.dad j ∈ K.panels ∧ K.dad j ∉ qlist s.sh ∧ stt s' (K.dad j) = CANPIPE ∧
        s'.sh.tail = s.sh.tail + 1 ∧ s'.sh.queue = s.sh.queue.setIfInBounds s.sh.tail (K.dad j) ∧
        qlist s'.sh = qlist s.sh ++ [K.dad j])
  /-- the reported panel's parent taken directly (head stays), nothing handed out (all pending entries stale), or the
  first live entry `k` taken (head moves behind it) -/
  how : (∃ q, (wk s w).cur = some q ∧ got = some (K.dad q) ∧ ukd s (K.dad q) = 1 ∧ s'.sh.head = s.sh.head) ∨
      ((∀ q, (wk s w).cur = some q → ¬ (ukd s (K.dad q) = 1 ∧ stt s (K.dad q) > BUSY)) ∧
       ((got = none ∧ staleUpTo s.sh s.sh.tail) ∨
        (∃ j k, got = some j ∧ s.sh.head ≤ k ∧ k < s.sh.tail ∧ getN s.sh.queue k = j ∧ s'.sh.head = k + 1 ∧
           staleUpTo s.sh k)))
  flags_none : got = none → s'.sh.spin = s.sh.spin ∧ s'.sh.fb = s.sh.fb
  flags_some : ∀ j, got = some j → s'.sh.spin = fillN s.sh.spin j (getZ s.sh.size j).toNat 1 ∧
      s'.sh.fb = s.sh.fb.setIfInBounds (K.dad j) b ∧ b = climbDone K.c s'.sh (K.c.n + 1) (getN s.sh.fb j)

/-- collect `schedule_frame/queue/pipe/head`, name the result triple, turn `dadPanel` into `K.dad` -/
theorem sched_effect (K : Cfg) (W : CfgWF K) (s : Sys) (inv : SysInv K s) (w : Nat)
    (h : enabled K.c s (.sched w) = true) : ∃ got b, SchedEffect K s (step K.c s (.sched w)) w got b := by
  have hph := (enabled_sched K.c s w).1 h
  have hw : w < s.ws.size := not_exited_lt_size s w (by rw [hph]; simp)
  rw [step_sched_eq K.c s w h]
  have hwk : ∀ i,
      wk ⟨_, s.ws.setIfInBounds w (schedWorker K.c s w)⟩ i = if i = w then schedWorker K.c s w else wk s i :=
    fun i => wk_upd (s := s) (sh' := (schedule K.c s.sh (wk s w).cur 0).1) (w := w) (i := i) hw
  have hcurq : ∀ q, (wk s w).cur = some q → stt s q = DONE ∧ q ∈ K.panels :=
    fun q hq => inv.own_i w q hq (calling_not_working hph)
  obtain ⟨hqok, hsize, hssz, husz, hukA, hpicked, hnone, htake⟩ :=
    schedule_frame K.c s.sh (wk s w).cur 0 inv.qok inv.ssz inv.usz
    (fun j => j ∈ K.panels) W.lt (fun j hj => by rw [inv.dad_eq]; exact W.dad_gt j hj)
    (fun j hj hd => by rw [inv.dad_eq] at hd ⊢; exact W.dad_pan j hj hd)
    (fun q hq => (hcurq q hq).2) (fun k _ h2 => inv.qpan k h2)
    (fun q hq hdq => by rw [inv.dad_eq] at hdq; exact inv.root_counter hph hq hdq)
  have hq := schedule_queue K.c s.sh (wk s w).cur 0 inv.qok
  obtain ⟨hflags0, hflags, htyp⟩ := schedule_pipe K.c s.sh (wk s w).cur 0 inv.qok
  have hhead := schedule_head K.c s.sh (wk s w).cur 0 inv.qok
    (Nat.le_trans (Nat.sub_le _ _) (Nat.le_succ_of_le (queue_tail_le K W s inv)))
  -- from here on the facts above speak of `sh'`, `got`, `b`
  generalize hr : schedule K.c s.sh (wk s w).cur 0 = r at *
  obtain ⟨sh', got, b⟩ := r
  simp only at *
  have huk : ∀ d, getZ sh'.ukids d = ukd s d - (if ∃ q, (wk s w).cur = some q ∧ d = K.dad q then 1 else 0) := by
    intro d
    rw [hukA d]
    unfold ukAfter ukd
    cases hc : (wk s w).cur with
    | none => simp
    | some q =>
      simp only [Option.some.injEq, exists_eq_left']
      rw [inv.dad_eq]
      split <;> simp
  have hgot : ∀ j, got = some j → j ∈ K.panels := by
    rintro j rfl
    generalize hsj : some j = sj at hpicked
    rcases hpicked with _ | ⟨q, h1, _, _⟩ | ⟨j', k, _, _, h3, h4⟩
    · cases hsj
    · cases hsj
      rw [inv.dad_eq]
      exact W.dad_pan q (hcurq q h1).2 (inv.dad_eq q ▸ (htake _ rfl).1)
    · cases hsj
      rw [← h4]
      exact inv.qpan k h3
  have hdadU : ∀ j, got = some j → K.dad j < K.c.n → stt s (K.dad j) = UNREADY := by
    intro j hj hdn
    by_contra hne
    exact Nat.not_le.2 (htake j hj).2.1 (inv.closed (K.dad j) (W.dad_pan j (hgot j hj) hdn) hne j (hgot j hj) rfl)
  refine ⟨got, b, {
    calling := hph, got_eq := by rw [hr], b_eq := by rw [hr], wk_cur := ?wk_cur, wk_some := ?wk_some,
    wk_none := ?wk_none, wk_other := ?wk_other, wsz := Array.size_setIfInBounds, size_eq := hsize, typ_eq := htyp,
    ssz := hssz, usz := husz, qok := hqok, uk := huk, tasks := ?tasks, got_pan := hgot, dad_unready := hdadU,
    state := ?state, queue := ?queue_eff, how := ?how,
    flags_none := hflags0, flags_some := ?flags_some }⟩
  case wk_cur =>
    rw [hwk w, if_pos rfl]
    show (schedule K.c s.sh (wk s w).cur 0).2.1 = _
    rw [hr]
  case wk_some =>
    rintro p rfl
    rw [hwk w, if_pos rfl]
    unfold schedWorker
    simp only [hr]
  case wk_none =>
    rintro rfl
    rw [hwk w, if_pos rfl]
    unfold schedWorker
    simp only [hr]
  case wk_other =>
    intro i hi; rw [hwk i, if_neg hi]
  case tasks =>
    cases got with
    | none => simp [(hnone rfl).2]
    | some j => simp [(htake j rfl).2.2.1]
  case state =>
    intro p
    unfold stt ukd
    cases got with
    | none => exact Or.inr (Or.inr ⟨by simp, by rw [(hnone rfl).1]⟩)
    | some j =>
      obtain ⟨_, hjs, _, hst⟩ := htake j rfl
      have hst := hst p
      rw [inv.dad_eq] at hst
      by_cases e1 : p = j
      · rw [if_pos e1] at hst; exact Or.inl ⟨by rw [e1], by rw [e1]; exact hjs, hst⟩
      · rw [if_neg e1] at hst
        split at hst
        · next hc =>
          exact Or.inr (Or.inl ⟨fun e => e1 (Option.some.inj e).symm, by rw [hc.1]; exact hdadU j rfl hc.2.1,
            hst, j, rfl, hc.1,
            by rw [hukA, hc.1]; exact hc.2.2⟩)
        · exact Or.inr (Or.inr ⟨fun e => e1 (Option.some.inj e).symm, hst⟩)
  case queue_eff =>
    rcases hq with hsame | ⟨j, rfl, e_tail, e_queue, hdn, e_uk⟩
    · exact ⟨by rw [hsame.2]; exact inv.qsz, Or.inl hsame⟩
    · rw [inv.dad_eq] at e_queue hdn e_uk
      have hdp := W.dad_pan j (hgot j rfl) hdn
      have hnq : K.dad j ∉ qlist s.sh := fun hm => by
        obtain ⟨k, hk, hka⟩ := mem_qlist.1 hm
        exact inv.qstate k hk (by rw [hka]; exact hdadU j rfl hdn)
      refine ⟨by rw [e_queue, Array.size_setIfInBounds]; exact inv.qsz, Or.inr ⟨j, rfl, hdp, hnq, ?_, e_tail, e_queue,
        qlist_push e_tail e_queue (by rw [inv.qsz]; exact inv.queue_room W hdp hnq)⟩⟩
      have hst := (htake j rfl).2.2.2 (K.dad j)
      rw [inv.dad_eq, if_neg (Nat.ne_of_gt (W.dad_gt j (hgot j rfl)).1), if_pos ⟨rfl, hdn,
        by rw [← hukA]; exact e_uk⟩] at hst
      exact hst
  case how =>
    simp only [inv.dad_eq] at hhead
    rcases hhead with ⟨q, a1, a2, a3, a4⟩ | ⟨a, hrest⟩
    · exact Or.inl ⟨q, a1, a2, sub_eq_zero.1 a3, a4⟩
    · exact Or.inr ⟨fun q hq hc => a q hq ⟨sub_eq_zero.2 hc.1, hc.2⟩, hrest⟩
  case flags_some =>
    rintro j rfl
    obtain ⟨e_spin, e_b, e_fb⟩ := hflags j rfl
    rw [inv.dad_eq] at e_fb
    exact ⟨e_spin, e_fb, e_b⟩

namespace SchedEffect
variable {K : Cfg} {s s' : Sys} {w : Nat} {got : Option Nat} {b : Nat} (E : SchedEffect K s s' w got b)
include E

theorem took {j : Nat} (hj : got = some j) : stt s j > BUSY ∧ stt s' j = BUSY := by
  rcases E.state j with ⟨_, h1, h2⟩ | ⟨h, _⟩ | ⟨h, _⟩
  · exact ⟨h1, h2⟩
  · exact absurd hj h
  · exact absurd hj h

theorem le_same {p : Nat} (hp : stt s p ≤ BUSY) : stt s' p = stt s p := by
  have := state_order
  rcases E.state p with ⟨_, h, _⟩ | ⟨_, h, _⟩ | ⟨_, h⟩
  · omega  -- handed out: it was untaken
  · omega  -- made CANPIPE: it was UNREADY
  · exact h

theorem done_iff (p : Nat) : stt s' p = DONE ↔ stt s p = DONE := by
  have := state_order
  rcases E.state p with ⟨_, h1, h2⟩ | ⟨_, h1, h2, _⟩ | ⟨_, h⟩
  · omega  -- handed out: untaken before, BUSY after
  · omega  -- UNREADY before, CANPIPE after
  · rw [h]

theorem unready {p : Nat} (hp : stt s' p = UNREADY) : stt s p = UNREADY := by
  have := state_order
  rcases E.state p with ⟨_, _, h2⟩ | ⟨_, _, h2, _⟩ | ⟨_, h⟩
  · omega  -- handed out: BUSY after
  · omega  -- CANPIPE after
  · exact h ▸ hp

theorem gt_iff {p : Nat} (hp : got ≠ some p) : stt s' p > BUSY ↔ stt s p > BUSY := by
  have := state_order
  rcases E.state p with ⟨h, _⟩ | ⟨_, h1, h2, _⟩ | ⟨_, h⟩
  · exact absurd h hp
  · omega  -- UNREADY before, CANPIPE after
  · rw [h]

theorem busy {p : Nat} (hp : stt s' p = BUSY) : got = some p ∨ stt s p = BUSY := by
  have := state_order
  rcases E.state p with ⟨h, _⟩ | ⟨_, h1, h2, _⟩ | ⟨_, h⟩
  · exact Or.inl h
  · omega  -- CANPIPE after
  · exact .inr (h ▸ hp)

theorem le_unready {p : Nat} (hp : stt s p ≤ UNREADY) : stt s' p ≤ UNREADY := by
  have := state_order
  rcases E.state p with ⟨_, _, h2⟩ | ⟨_, _, h2, _⟩ | ⟨_, h⟩
  · omega  -- handed out: BUSY after
  · omega  -- CANPIPE after
  · exact h ▸ hp

theorem cur_eq (i : Nat) : (wk s' i).cur = if i = w then got else (wk s i).cur := by
  split
  · next e => rw [e]; exact E.wk_cur
  · next e => rw [E.wk_other i e]

theorem working_iff (i p b' : Nat) : (wk s' i).phase = .working p b' ↔
    ((i = w ∧ got = some p ∧ b' = b) ∨ (i ≠ w ∧ (wk s i).phase = .working p b')) := by
  by_cases e : i = w
  · subst e
    cases hg : got with
    | none => simp [E.wk_none hg]
    | some j => simp [E.wk_some j hg, eq_comm]
  · simp [e, E.wk_other i e]

theorem hasCur_iff (q : Nat) : hasCur s' q ↔ (got = some q ∨ ∃ i, i ≠ w ∧ (wk s i).cur = some q) := by
  unfold hasCur
  constructor
  · rintro ⟨i, hi⟩
    rw [E.cur_eq i] at hi
    split at hi
    · exact Or.inl hi
    · next e => exact Or.inr ⟨i, e, hi⟩
  · rintro (hg | ⟨i, e, hi⟩)
    · exact ⟨w, by rw [E.cur_eq w, if_pos rfl]; exact hg⟩
    · exact ⟨i, by rw [E.cur_eq i, if_neg e]; exact hi⟩

theorem unrep_other {q : Nat} (hq : (wk s w).cur ≠ some q) : unrep s' q ↔ unrep s q := by
  have := state_order
  simp only [unrep, ne_eq, E.hasCur_iff, E.done_iff]
  constructor
  · rintro (h1 | h1 | ⟨i, _, hi⟩)
    · exact Or.inl h1
    · have := (E.took h1).1
      left
      omega
    · exact Or.inr ⟨i, hi⟩
  · rintro (h1 | ⟨i, hi⟩)
    · exact Or.inl h1
    · exact Or.inr (Or.inr ⟨i, fun e => hq (e ▸ hi), hi⟩)

theorem unrep_cur (inv : SysInv K s) {q : Nat} (hq : (wk s w).cur = some q) : q ∈ K.panels ∧ ¬ unrep s' q ∧ unrep s q := by
  have := state_order
  obtain ⟨hd, hqp⟩ := inv.own_i w q hq (calling_not_working E.calling)
  refine ⟨hqp, ?_, Or.inr ⟨w, hq⟩⟩
  simp only [unrep, ne_eq, E.hasCur_iff, E.done_iff]
  rintro (h1 | h1 | ⟨i, e, hi⟩)
  · exact h1 hd
  · have := (E.took h1).1
    omega
  · exact e (inv.own_u i w q hi hq)

theorem cnt_untaken (W : CfgWF K) :
    cnt K.panels (fun q => stt s q > BUSY) = cnt K.panels (fun q => stt s' q > BUSY) + (if got.isSome then 1 else 0) := by
  cases hg : got with
  | none => exact cnt_congr (fun q _ => (E.gt_iff (by rw [hg]; simp)).symm)
  | some j =>
    exact cnt_remove_one K.panels _ _ j W.nodup (E.got_pan j hg) (E.took hg).1 (by rw [(E.took hg).2]; simp)
      (fun x _ hx => (E.gt_iff (by rw [hg]; exact fun e => hx (Option.some.inj e).symm)).symm)

/-- an UNREADY panel is handed out only through the report of its last child -/
theorem unready_got (inv : SysInv K s) {j : Nat} (hj : got = some j) (hu : stt s j = UNREADY) : ukd s' j = 0 := by
  rcases E.how with ⟨q, a1, a2, a3, _⟩ | ⟨_, ⟨a, _⟩ | ⟨j', k, a1, a2, a3, a4, _⟩⟩
  · rw [hj] at a2; cases a2
    rw [E.uk, if_pos ⟨q, a1, rfl⟩, a3]; rfl
  · rw [hj] at a; cases a
  · rw [hj] at a1; cases a1
    exact absurd hu (a4 ▸ inv.qstate k a3)

end SchedEffect

theorem sysInv_sched (K : Cfg) (W : CfgWF K) (s : Sys) (inv : SysInv K s) (w : Nat)
    (h : enabled K.c s (.sched w) = true) : SysInv K (step K.c s (.sched w)) := by
  obtain ⟨got, b, E⟩ := sched_effect K W s inv w h
  generalize step K.c s (.sched w) = s' at E ⊢
  have hord := state_order
  have hkids : ∀ d, (d ∈ K.panels ∨ d = K.c.n) →
      ukd s' d = (cnt K.panels (fun q => K.dad q = d ∧ unrep s' q) : Int) := by
    intro d hd
    rw [E.uk d, inv.kids d hd]
    by_cases hc : ∃ q, (wk s w).cur = some q ∧ d = K.dad q
    · obtain ⟨q0, hq0, hdq⟩ := hc
      obtain ⟨hq0p, hn, hy⟩ := E.unrep_cur inv hq0
      rw [if_pos ⟨q0, hq0, hdq⟩,
        cnt_remove_one K.panels (fun q => K.dad q = d ∧ unrep s q) (fun q => K.dad q = d ∧ unrep s' q)
        q0 W.nodup hq0p ⟨hdq.symm, hy⟩ (fun hh => hn hh.2)
        (fun x _ hx => by rw [E.unrep_other (by rw [hq0]; exact fun e => hx (Option.some.inj e).symm)])]
      omega
    · rw [if_neg hc, sub_zero,
        cnt_congr (l := K.panels) (P := fun q => K.dad q = d ∧ unrep s q) (Q := fun q => K.dad q = d ∧ unrep s' q)]
      intro x _
      by_cases hx : (wk s w).cur = some x
      · simp [show K.dad x ≠ d from fun e => hc ⟨x, hx, e.symm⟩]
      · rw [E.unrep_other hx]
  have hqmem : ∀ k, k < s'.sh.tail → (∃ k', k' < s.sh.tail ∧ getN s.sh.queue k' = getN s'.sh.queue k) ∨
      (getN s'.sh.queue k ∈ K.panels ∧ stt s' (getN s'.sh.queue k) = CANPIPE) := by
    intro k hk
    rcases E.queue.2 with ⟨a, c⟩ | ⟨j, _, hdp, _, hst, _, _, hql⟩
    · exact Or.inl ⟨k, a ▸ hk, by rw [c]⟩
    · have hm : getN s'.sh.queue k ∈ qlist s.sh ++ [K.dad j] := hql ▸ mem_qlist.2 ⟨k, hk, rfl⟩
      rcases List.mem_append.1 hm with hm | hm
      · exact Or.inl (mem_qlist.1 hm)
      · rw [List.mem_singleton.1 hm]; exact Or.inr ⟨hdp, hst⟩
  refine {
    dad_eq := ?dad_eq, ssz := E.ssz, usz := E.usz, qok := E.qok, qpan := ?qpan, qstate := ?qstate, qnodup := ?qnodup,
    qsz := E.queue.1, own_w := ?own_w, own_i := ?own_i, own_u := ?own_u, busy_owned := ?busy_owned, valid := ?valid,
    kids := hkids, closed := ?closed, tasks := ?tasks, root_left := ?root_left }
  case dad_eq =>
    intro j
    rw [dadPanel_congr K.c _ s.sh E.size_eq]
    exact inv.dad_eq j
  case qpan =>
    intro k hk
    rcases hqmem k hk with ⟨k', hk', e⟩ | ⟨hp, _⟩
    · exact e ▸ inv.qpan k' hk'
    · exact hp
  case qstate =>
    intro k hk hu
    rcases hqmem k hk with ⟨k', hk', e⟩ | ⟨_, hc⟩
    · exact inv.qstate k' hk' (e ▸ E.unready hu)
    · omega
  case qnodup =>
    rcases E.queue.2 with ⟨a, c⟩ | ⟨j, _, _, hnq, _, _, _, hql⟩
    · rw [show qlist s'.sh = qlist s.sh by unfold qlist; rw [a, c]]; exact inv.qnodup
    · rw [hql]
      refine List.nodup_append.2 ⟨inv.qnodup, List.pairwise_singleton _ _, fun x hx y hy e => hnq ?_⟩
      rw [← List.mem_singleton.1 hy, ← e]
      exact hx
  case own_w =>
    intro i p b' hp
    rcases (E.working_iff i p b').1 hp with ⟨rfl, hg, _⟩ | ⟨hi, hp0⟩
    · exact ⟨E.wk_cur.trans hg, (E.took hg).2, E.got_pan p hg⟩
    · obtain ⟨c1, c2, c3⟩ := inv.own_w i p b' hp0
      exact ⟨by rw [E.wk_other i hi]; exact c1, by rw [E.le_same (by omega)]; exact c2, c3⟩
  case own_i =>
    intro i q hq hnw
    by_cases e : i = w
    · subst e
      exact absurd ⟨q, b, E.wk_some q (E.wk_cur.symm.trans hq)⟩ hnw
    · rw [E.wk_other i e] at hq hnw
      obtain ⟨c1, c2⟩ := inv.own_i i q hq hnw
      exact ⟨(E.done_iff q).2 c1, c2⟩
  case own_u =>
    -- a panel handed out now was untaken, a panel some other worker names was taken
    intro i i' q h1 h2
    rw [E.cur_eq] at h1 h2
    split at h1 <;> split at h2
    · next e e' => rw [e, e']
    · have := (E.took h1).1
      have := inv.cur_taken h2
      omega
    · have := (E.took h2).1
      have := inv.cur_taken h1
      omega
    · exact inv.own_u i i' q h1 h2
  case busy_owned =>
    intro p hp hb
    rcases E.busy hb with hg | hb0
    · exact ⟨w, b, E.wk_some p hg⟩
    · obtain ⟨i, b', hib⟩ := inv.busy_owned p hp hb0
      have hiw : i ≠ w := by rintro rfl; rw [E.calling] at hib; cases hib
      exact ⟨i, b', by rw [E.wk_other i hiw]; exact hib⟩
  case valid =>
    exact fun p hp => E.le_unready (inv.valid p hp)
  case closed =>
    intro d hd hne q hq hdq
    have hold : stt s d ≠ UNREADY → stt s' q ≤ BUSY := fun hdu => by
      have h1 := inv.closed d hd hdu q hq hdq
      rw [E.le_same h1]; exact h1
    rcases E.state d with ⟨hg, _, _⟩ | ⟨_, _, _, j, hg, hdj, hu1⟩ | ⟨_, e⟩
    · -- `d` itself is handed out; if it was UNREADY, its last child has just been reported
      by_cases hdu : stt s d = UNREADY
      · have hnu := kids_zero (hkids d (Or.inl hd)) (E.unready_got inv hg hdu) hq hdq
        have : stt s' q = DONE := by by_contra hc; exact hnu (Or.inl hc)
        omega
      · exact hold hdu
    · -- `d` became CANPIPE: the panel handed out is its only unreported child
      by_contra hgt
      have hqj := kids_one (hkids d (Or.inl hd)) hu1 (E.got_pan j hg) hdj.symm
        (Or.inl (by have := (E.took hg).2; omega)) hq hdq (Or.inl (by omega))
      have := (E.took hg).2
      rw [hqj] at hgt; omega
    · exact hold (e ▸ hne)
  case tasks =>
    rw [E.tasks, inv.tasks, E.cnt_untaken W]
    push_cast
    exact add_sub_cancel_right _ _
  case root_left =>
    obtain ⟨r, hr, hdr, hcase⟩ := inv.root_left
    refine ⟨r, hr, hdr, hcase.imp (fun h1 hd => h1 ((E.done_iff r).1 hd)) ?_⟩
    rintro ⟨i, hi1, hi2⟩
    have hiw : i ≠ w := fun e => hi2 (e ▸ E.calling)
    exact ⟨i, by rw [E.wk_other i hiw]; exact hi1, by rw [E.wk_other i hiw]; exact hi2⟩

end Slu
