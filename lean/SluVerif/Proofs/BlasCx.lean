/- complex pairs form a commutative ring when the components do: the ring-generic theorems of C19 cover the c/z
   arithmetic (`zz_mult`, `z_add`, `z_sub`) -/
import SluVerif.Model.Blas
import Mathlib.Algebra.Ring.Defs
import Mathlib.Tactic.Ring
namespace Slu.Blas
namespace Cx
variable {β : Type}

@[ext] theorem ext {a b : Cx β} (hr : a.re = b.re) (hi : a.im = b.im) : a = b := by
  exact congrArg₂ Cx.mk hr hi

section
variable [CommRing β]
@[simp] theorem zero_re : (0 : Cx β).re = 0 := rfl
@[simp] theorem zero_im : (0 : Cx β).im = 0 := rfl
@[simp] theorem one_re : (1 : Cx β).re = 1 := rfl
@[simp] theorem one_im : (1 : Cx β).im = 0 := rfl
@[simp] theorem add_re (a b : Cx β) : (a + b).re = a.re + b.re := rfl
@[simp] theorem add_im (a b : Cx β) : (a + b).im = a.im + b.im := rfl
@[simp] theorem sub_re (a b : Cx β) : (a - b).re = a.re - b.re := rfl
@[simp] theorem sub_im (a b : Cx β) : (a - b).im = a.im - b.im := rfl
@[simp] theorem neg_re (a : Cx β) : (-a).re = -a.re := rfl
@[simp] theorem neg_im (a : Cx β) : (-a).im = -a.im := rfl
@[simp] theorem mul_re (a b : Cx β) : (a * b).re = a.re * b.re - a.im * b.im := rfl
@[simp] theorem mul_im (a b : Cx β) : (a * b).im = a.im * b.re + a.re * b.im := rfl

instance instCommRing : CommRing (Cx β) where
  add := (· + ·)
  zero := 0
  neg := Neg.neg
  sub := (· - ·)
  mul := (· * ·)
  one := 1
  add_assoc a b c := by ext <;> simp <;> ring
  zero_add a := by ext <;> simp
  add_zero a := by ext <;> simp
  add_comm a b := by ext <;> simp <;> ring
  neg_add_cancel a := by ext <;> simp
  sub_eq_add_neg a b := by ext <;> simp <;> ring
  mul_assoc a b c := by ext <;> simp <;> ring
  one_mul a := by ext <;> simp
  mul_one a := by ext <;> simp
  left_distrib a b c := by ext <;> simp <;> ring
  right_distrib a b c := by ext <;> simp <;> ring
  mul_comm a b := by ext <;> simp <;> ring
  zero_mul a := by ext <;> simp
  mul_zero a := by ext <;> simp
  nsmul := nsmulRec
  zsmul := zsmulRec
end
end Cx
end Slu.Blas
