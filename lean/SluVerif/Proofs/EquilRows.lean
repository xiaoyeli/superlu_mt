/- C11: laws of the entry types, the row pass of gsequ as `rowMax` tabulated, the maximum of one scaled column -/
import SluVerif.Proofs.EquilBasic
import Mathlib.Tactic.Ring

namespace Slu.Equil
open Entry

/-- the algebra the property needs of an entry type -/
class LawfulEntry (E : Type) [Entry E] [Zero E] : Prop where
  mag_nonneg : ∀ e : E, 0 ≤ mag e
  mag_eq_zero : ∀ e : E, mag e = 0 ↔ e = 0
  mag_smul : ∀ (s : Rat) (e : E), mag (smul s e) = |s| * mag e
  smul_one : ∀ e : E, smul 1 e = e
  -- inner factor first: the `Rat` instance multiplies on the right (`e * t * s`)
  smul_smul : ∀ (s t : Rat) (e : E), smul s (smul t e) = smul (t * s) e

instance : Zero Cx := ⟨⟨0, 0⟩⟩

theorem Cx.ext' {a b : Cx} (h1 : a.re = b.re) (h2 : a.im = b.im) : a = b := by
  exact (Cx.mk.injEq ..).mpr ⟨h1, h2⟩

instance : LawfulEntry Rat where
  mag_nonneg e := by show 0 ≤ rabs e; rw [rabs_eq]; exact abs_nonneg e
  mag_eq_zero e := by show rabs e = 0 ↔ e = 0; rw [rabs_eq]; exact abs_eq_zero
  mag_smul s e := by show rabs (e * s) = |s| * rabs e; rw [rabs_eq, rabs_eq, abs_mul, mul_comm]
  smul_one e := by show e * 1 = e; exact mul_one e
  smul_smul s t e := by show e * t * s = e * (t * s); exact mul_assoc e t s

instance : LawfulEntry Cx where
  mag_nonneg e := by
    show 0 ≤ rabs e.re + rabs e.im
    rw [rabs_eq, rabs_eq]; exact add_nonneg (abs_nonneg _) (abs_nonneg _)
  mag_eq_zero e := by
    show rabs e.re + rabs e.im = 0 ↔ e = 0
    rw [rabs_eq, rabs_eq]
    constructor
    · intro h
      have h1 : |e.re| = 0 := by linarith [abs_nonneg e.re, abs_nonneg e.im]
      have h2 : |e.im| = 0 := by linarith [abs_nonneg e.re, abs_nonneg e.im]
      exact Cx.ext' (abs_eq_zero.mp h1) (abs_eq_zero.mp h2)
    · intro h; subst h; show |(0 : Rat)| + |(0 : Rat)| = 0; simp
  mag_smul s e := by
    show rabs (e.re * s) + rabs (e.im * s) = |s| * (rabs e.re + rabs e.im)
    simp only [rabs_eq, abs_mul]; ring
  smul_one e := by
    show (⟨e.re * 1, e.im * 1⟩ : Cx) = e
    cases e; simp
  smul_smul s t e := by
    show (⟨e.re * t * s, e.im * t * s⟩ : Cx) = ⟨e.re * (t * s), e.im * (t * s)⟩
    rw [mul_assoc, mul_assoc]

section
variable {E : Type} [Entry E]

def SpMat.stored (A : SpMat E) : List (Nat × E) := A.cols.flatten

def rowMags (A : SpMat E) (i : Nat) : List Rat :=
  (A.stored.filter (fun e => e.1 == i)).map (fun e => mag e.2)

/-- 0 for a row without stored entries -/
def rowMax (A : SpMat E) (i : Nat) : Rat := fmax 0 (rowMags A i)

theorem rowMax_nonneg (A : SpMat E) (i : Nat) : 0 ≤ rowMax A i := fmax_ge_init 0

theorem rowMax_ge (A : SpMat E) (e : Nat × E) (he : e ∈ A.stored) : mag e.2 ≤ rowMax A e.1 := by
  unfold rowMax rowMags
  exact le_fmax_map 0 _ (List.mem_filter.mpr ⟨he, beq_self_eq_true e.1⟩)

theorem rowMax_attained (A : SpMat E) (i : Nat) :
    rowMax A i = 0 ∨ ∃ e ∈ A.stored, e.1 = i ∧ mag e.2 = rowMax A i := by
  unfold rowMax rowMags
  exact (fmax_map_attained 0 _ _).imp_right fun ⟨e, he, hm⟩ =>
    ⟨e, (List.mem_filter.mp he).1, beq_iff_eq.mp (List.mem_filter.mp he).2, hm⟩

theorem foldl_rowMaxStep_length (es : List (Nat × E)) (r : List Rat) :
    (es.foldl rowMaxStep r).length = r.length :=
  foldl_keeps List.length rowMaxStep (fun _ _ => List.length_modify _ _ _)

theorem foldl_rowMaxStep_get (es : List (Nat × E)) (r : List Rat) (i : Nat) :
    (es.foldl rowMaxStep r)[i]? =
      r[i]?.map (fun x => fmax x ((es.filter (fun e => e.1 == i)).map (fun e => mag e.2))) := by
  induction es generalizing r with
  | nil => simp
  | cons e es ih =>
    simp only [List.foldl_cons]
    rw [ih]
    unfold rowMaxStep
    rw [List.getElem?_modify, List.filter_cons]
    by_cases h : e.1 = i
    · subst h
      simp only [if_true, beq_self_eq_true, Option.map_eq_map, Option.map_map, List.map_cons, fmax_cons,
        Function.comp_def, rmax_eq]
    · simp only [h, if_false, beq_eq_false_iff_ne.mpr h, Bool.false_eq_true, Option.map_eq_map, Option.map_id']

theorem rowMaxPass_eq_foldl (A : SpMat E) :
    rowMaxPass A = A.stored.foldl rowMaxStep (List.replicate A.nrow 0) := by
  unfold rowMaxPass SpMat.stored
  rw [List.foldl_flatten]

theorem rowMaxPass_length (A : SpMat E) : (rowMaxPass A).length = A.nrow := by
  rw [rowMaxPass_eq_foldl, foldl_rowMaxStep_length, List.length_replicate]

theorem rowMaxPass_get (A : SpMat E) (i : Nat) (hi : i < A.nrow) :
    (rowMaxPass A)[i]? = some (rowMax A i) := by
  rw [rowMaxPass_eq_foldl, foldl_rowMaxStep_get, List.getElem?_replicate]
  simp [hi, rowMax, rowMags]

theorem rowMaxPass_eq_map (A : SpMat E) : rowMaxPass A = (List.range A.nrow).map (rowMax A) :=
  eq_map_range (rowMaxPass_length A) (rowMaxPass_get A)

def colMags (r : List Rat) (col : List (Nat × E)) : List Rat :=
  col.map (fun e => mag e.2 * r.getD e.1 0)

theorem colMax_eq (r : List Rat) (col : List (Nat × E)) : colMax r col = fmax 0 (colMags r col) := by
  unfold colMax colMags fmax
  rw [List.foldl_map]
  congr 1
  funext c e
  exact rmax_eq _ _

theorem colMaxPass_length (A : SpMat E) (r : List Rat) : (colMaxPass A r).length = A.ncol := by
  unfold colMaxPass SpMat.ncol
  simp

end

section
variable {E : Type} [Entry E] [Zero E] [LawfulEntry E]

theorem rowMax_eq_zero_iff (A : SpMat E) (i : Nat) :
    rowMax A i = 0 ↔ ∀ e ∈ A.stored, e.1 = i → e.2 = 0 := by
  constructor
  · intro h e he hi
    have h1 := rowMax_ge A e he
    rw [hi, h] at h1
    exact (LawfulEntry.mag_eq_zero e.2).mp (le_antisymm h1 (LawfulEntry.mag_nonneg e.2))
  · intro h
    rcases rowMax_attained A i with h0 | ⟨e, he, hi, hm⟩
    · exact h0
    · rw [← hm]
      exact (LawfulEntry.mag_eq_zero e.2).mpr (h e he hi)

end

end Slu.Equil
