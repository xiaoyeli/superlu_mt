/- the C-array primitives of Model/Blas.lean (`rd`, `wr`, strided positions) and loops over them -/
import SluVerif.Model.Blas
import SluVerif.Proofs.ArrayLemmas
import SluVerif.Proofs.ListLemmas
import Mathlib.Algebra.BigOperators.Ring.Finset
import Mathlib.Algebra.BigOperators.Intervals
import Mathlib.Tactic.Ring
import Mathlib.Tactic.Linarith
namespace Slu.Blas
open Finset
variable {α : Type}

@[simp] theorem size_wr (a : Array α) (i : Nat) (v : α) : (wr a i v).size = a.size :=
  Array.size_setIfInBounds

theorem rd_wr [Zero α] (a : Array α) (i k : Nat) (v : α) :
    rd (wr a i v) k = if k = i ∧ i < a.size then v else rd a k :=
  getD_setIfInBounds a i k v 0

theorem rd_wr_same [Zero α] {a : Array α} {i : Nat} {v : α} (h : i < a.size) : rd (wr a i v) i = v :=
  getD_setIfInBounds_self a v 0 h

theorem rd_wr_ne [Zero α] {a : Array α} {i k : Nat} {v : α} (h : k ≠ i) : rd (wr a i v) k = rd a k :=
  getD_setIfInBounds_ne a v 0 h

theorem rd_of_size_le [Zero α] (a : Array α) (k : Nat) (h : a.size ≤ k) : rd a k = 0 := by
  unfold rd; simp [Array.getD, Nat.not_lt.mpr h]

theorem array_ext_rd [Zero α] (a b : Array α) (hs : a.size = b.size) (h : ∀ k, k < a.size → rd a k = rd b k) :
    a = b := by
  apply Array.ext hs
  intro i h1 h2
  have := h i h1
  simpa [rd, Array.getD, h1, h2] using this

/-- storing `0` reads back `0` even out of bounds (every read there is `0`) -/
theorem rd_wr_zero [Zero α] (a : Array α) (i k : Nat) : rd (wr a i 0) k = if k = i then 0 else rd a k := by
  rw [rd_wr]
  by_cases h : k = i
  · subst h
    by_cases hb : k < a.size
    · rw [if_pos ⟨rfl, hb⟩, if_pos rfl]
    · rw [if_neg (fun c => hb c.2), if_pos rfl, rd_of_size_le a k (Nat.le_of_not_lt hb)]
  · rw [if_neg (fun c => h c.1), if_neg h]

theorem rd_foldl_zero [Zero α] (p : Nat → Nat) (y : Array α) (n : Nat) (q : Nat) :
    rd ((List.range n).foldl (fun y i => wr y (p i) (0 : α)) y) q
      = if ∃ i < n, p i = q then 0 else rd y q := by
  induction n with
  | zero => simp
  | succ n ih =>
    rw [foldl_range_succ, rd_wr_zero, ih]
    by_cases h : q = p n
    · rw [if_pos h, if_pos ⟨n, Nat.lt_succ_self n, h.symm⟩]
    · rw [if_neg h]
      exact if_congr (Nat.exists_lt_succ_right.trans (or_iff_left fun e => h e.symm)).symm rfl rfl

theorem wr_rd_self [Zero α] (x : Array α) (i : Nat) : wr x i (rd x i) = x := by
  apply array_ext_rd _ _ (size_wr x i _)
  intro k _
  rw [rd_wr]
  split_ifs with h
  · rw [h.1]
  · rfl

/-- a loop that never writes cell `c` may read it once, before the loop (`temp = x[c]`) -/
theorem foldl_read_const [Zero α] (c : Nat) (body : α → Array α → Nat → Array α) (n : Nat) (x : Array α)
    (hc : ∀ v y t, t < n → rd (body v y t) c = rd y c) :
    (List.range n).foldl (fun y t => body (rd y c) y t) x = (List.range n).foldl (body (rd x c)) x :=
  (foldl_range_inv (fun y t => body (rd y c) y t)
    (fun k y => y = (List.range k).foldl (body (rd x c)) x ∧ rd y c = rd x c) x n ⟨rfl, rfl⟩
    (fun k y hk ⟨e1, e2⟩ => by
      rw [foldl_range_succ, ← e1, e2]
      exact ⟨rfl, (hc _ y k hk).trans e2⟩)).1

theorem rdN_eq_rd (a : Array Nat) (i : Nat) : rdN a i = rd a i := rfl

theorem rd_replicate [Zero α] (n k : Nat) : rd (Array.replicate n (0 : α)) k = 0 :=
  (getD_replicate n k 0 0).trans (ite_self _)

/-! over a commutative monoid: the codomain of `absf` in ?langs is not a ring -/
section Mon
variable [AddCommMonoid α]

theorem size_foldl_acc (p : Nat → Nat) (g : Nat → α) (y : Array α) (n : Nat) :
    ((List.range n).foldl (fun y k => wr y (p k) (rd y (p k) + g k)) y).size = y.size :=
  foldl_keeps Array.size _ (by intro s k; simp)

theorem foldl_add_eq_sum (g : Nat → α) (a : α) (n : Nat) :
    (List.range n).foldl (fun t k => t + g k) a = a + ∑ k ∈ range n, g k := by
  induction n with
  | zero => simp
  | succ n ih => rw [foldl_range_succ, ih, sum_range_succ, add_assoc]

/-- each iteration (an inner loop) adds `G j q` to cell `q` -/
theorem rd_foldl_additive (F : Array α → Nat → Array α) (G : Nat → Nat → α) (n : Nat) (y : Array α)
    (hF : ∀ y' j, j < n → y'.size = y.size → (F y' j).size = y.size ∧ ∀ q, rd (F y' j) q = rd y' q + G j q) :
    ((List.range n).foldl F y).size = y.size ∧
    ∀ q, rd ((List.range n).foldl F y) q = rd y q + ∑ j ∈ range n, G j q := by
  induction n with
  | zero => simp
  | succ n ih =>
    obtain ⟨ih1, ih2⟩ := ih (fun y' j hj hs => hF y' j (Nat.lt_succ_of_lt hj) hs)
    obtain ⟨h1, h2⟩ := hF _ n (Nat.lt_succ_self n) ih1
    rw [foldl_range_succ]
    refine ⟨h1, fun q => ?_⟩
    rw [h2, ih2, sum_range_succ, add_assoc]

/-- `for k: y[p k] += g k`; the cells may repeat -/
theorem rd_foldl_acc (p : Nat → Nat) (g : Nat → α) (y : Array α) (n : Nat)
    (hp : ∀ k < n, p k < y.size) (q : Nat) :
    rd ((List.range n).foldl (fun y k => wr y (p k) (rd y (p k) + g k)) y) q
      = rd y q + ∑ k ∈ range n, if p k = q then g k else 0 :=
  (rd_foldl_additive (fun y k => wr y (p k) (rd y (p k) + g k)) (fun k q => if p k = q then g k else 0) n y
    fun y' k hk hs => ⟨(size_wr ..).trans hs, fun q => by
      rw [rd_wr, hs]
      by_cases h : q = p k
      · subst h
        rw [if_pos ⟨rfl, hp k hk⟩, if_pos rfl]
      · rw [if_neg fun c => h c.1, if_neg fun e => h e.symm, add_zero]⟩).2 q

/-- a loop over `lo ≤ q < hi` inside a sum over all `N` positions -/
theorem sum_row_window (g : Nat → α) (lo hi N : Nat) (h2 : hi ≤ N) :
    (∑ q ∈ range N, if lo ≤ q ∧ q < hi then g q else 0) = ∑ k ∈ range (hi - lo), g (lo + k) := by
  rw [← sum_Ico_eq_sum_range, ← sum_filter]
  refine sum_congr ?_ fun _ _ => rfl
  ext q
  simp only [mem_filter, mem_range, mem_Ico]
  omega

end Mon

/-- `for i: y[p i] = h i (y[p i])` over distinct cells -/
theorem rd_foldl_update [Zero α] (p : Nat → Nat) (h : Nat → α → α) (y : Array α) (n : Nat)
    (hp : ∀ k < n, p k < y.size) (hinj : ∀ i < n, ∀ j < n, p i = p j → i = j) :
    (∀ i < n, rd ((List.range n).foldl (fun y i => wr y (p i) (h i (rd y (p i)))) y) (p i) = h i (rd y (p i)))
    ∧ (∀ q, (∀ i < n, p i ≠ q) →
        rd ((List.range n).foldl (fun y i => wr y (p i) (h i (rd y (p i)))) y) q = rd y q)
    ∧ ((List.range n).foldl (fun y i => wr y (p i) (h i (rd y (p i)))) y).size = y.size := by
  induction n with
  | zero => simp
  | succ n ih =>
    obtain ⟨ih1, ih2, ih3⟩ := ih (fun k hk => hp k (Nat.lt_succ_of_lt hk))
      (fun i hi j hj e => hinj i (Nat.lt_succ_of_lt hi) j (Nat.lt_succ_of_lt hj) e)
    have hpn := hp n (Nat.lt_succ_self n)
    refine ⟨?_, ?_, ?_⟩
    · intro i hi
      rw [foldl_range_succ, rd_wr, ih3]
      by_cases e : i = n
      · subst e
        simp only [hpn, and_self, if_true]
        rw [ih2]
        intro j hj e2
        exact absurd (hinj j (Nat.lt_succ_of_lt hj) i (Nat.lt_succ_self i) e2) (Nat.ne_of_lt hj)
      · have hi' : i < n := Nat.lt_of_le_of_ne (Nat.le_of_lt_succ hi) e
        have : ¬ (p i = p n) := fun e2 => e (hinj i hi n (Nat.lt_succ_self n) e2)
        simp only [this, false_and, if_false]
        exact ih1 i hi'
    · intro q hq
      rw [foldl_range_succ, rd_wr]
      have : ¬ (q = p n) := fun e => hq n (Nat.lt_succ_self n) e.symm
      simp only [this, false_and, if_false]
      exact ih2 q (fun i hi => hq i (Nat.lt_succ_of_lt hi))
    · rw [foldl_range_succ, size_wr, ih3]

theorem spos_one (len : Int) (i : Nat) : spos len 1 i = i := by
  unfold spos kstart; simp

/-- `spos` without the detour through `Int` -/
def sposN (l : Nat) (inc : Int) (i : Nat) : Nat :=
  if 0 < inc then i * inc.natAbs else (l - 1 - i) * inc.natAbs

theorem spos_eq_sposN (l : Nat) (inc : Int) (i : Nat) (hi : i < l) :
    spos (l : Int) inc i = sposN l inc i := by
  unfold spos sposN kstart
  by_cases h : 0 < inc
  · obtain ⟨c, rfl⟩ := Int.eq_ofNat_of_zero_le (le_of_lt h)
    simp only [h, if_true, zero_add, Int.natAbs_natCast]
    rw [← Int.natCast_mul, Int.toNat_natCast]
  · have h' : inc ≤ 0 := not_lt.mp h
    obtain ⟨c, hc⟩ := Int.eq_ofNat_of_zero_le (neg_nonneg.mpr h')
    have hinc : inc = -(c : Int) := by omega
    subst hinc
    simp only [h, if_false, Int.natAbs_neg, Int.natAbs_natCast]
    have : -((l : Int) - 1) * -(c : Int) + (i : Int) * -(c : Int) = (((l - 1 - i) * c : Nat) : Int) := by
      have h1 : ((l - 1 - i : Nat) : Int) = (l : Int) - 1 - i := by omega
      rw [Int.natCast_mul, h1]; ring
    rw [this, Int.toNat_natCast]

theorem sposN_inj (l : Nat) (inc : Int) (hinc : inc ≠ 0) (i j : Nat) (hi : i < l) (hj : j < l)
    (e : sposN l inc i = sposN l inc j) : i = j := by
  unfold sposN at e
  have hc : 0 < inc.natAbs := Int.natAbs_pos.mpr hinc
  by_cases h : 0 < inc
  · simp only [h, if_true] at e
    exact Nat.eq_of_mul_eq_mul_right hc e
  · simp only [h, if_false] at e
    have := Nat.eq_of_mul_eq_mul_right hc e
    omega

theorem sposN_le (l : Nat) (inc : Int) (i : Nat) (hi : i < l) : sposN l inc i ≤ (l - 1) * inc.natAbs := by
  unfold sposN
  by_cases h : 0 < inc
  · simp only [h, if_true]; exact Nat.mul_le_mul_right _ (by omega)
  · simp only [h, if_false]; exact Nat.mul_le_mul_right _ (by omega)

/-- `hsz` is the BLAS condition that the strided vector fits: `off + (n-1)|inc| < size` -/
theorem spos_lt_inj (n : Nat) (inc : Int) (hinc : inc ≠ 0) (off sz : Nat)
    (hsz : n = 0 ∨ off + (n - 1) * inc.natAbs < sz) :
    (∀ i < n, off + spos (n : Int) inc i < sz) ∧
    (∀ i < n, ∀ j < n, off + spos (n : Int) inc i = off + spos (n : Int) inc j → i = j) := by
  refine ⟨fun i hi => ?_, fun i hi j hj e => ?_⟩
  · rw [spos_eq_sposN n inc i hi]
    have := sposN_le n inc i hi
    omega
  · rw [spos_eq_sposN n inc i hi, spos_eq_sposN n inc j hj] at e
    exact sposN_inj n inc hinc i j hi hj (by omega)

end Slu.Blas
