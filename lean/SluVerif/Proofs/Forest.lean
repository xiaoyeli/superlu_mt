/- forests (parent arrays, root's parent = n), descendants, and the recursive postorder `po`: it lists exactly
   the descendants, without repetition, subtrees as segments. -/
import SluVerif.Proofs.Postorder
namespace Slu.Pre

/-- a forest on `0..n-1` with the library's convention `parent[root] = n`; acyclic by a rank that climbs (a ghost
witness; the identity for etrees) -/
def IsForest (n : Nat) (parent : Array Nat) : Prop :=
  parent.size = n ∧ (∀ v, v < n → getN parent v ≤ n) ∧
    ∃ rank : Nat → Nat, ∀ v, v < n → rank v < rank (getN parent v)

/-- shape of an elimination-tree array: `v < parent[v] ≤ n` -/
def Increasing (n : Nat) (par : Array Nat) : Prop :=
  par.size = n ∧ ∀ v, v < n → v < getN par v ∧ getN par v ≤ n

theorem isForest_of_increasing {n : Nat} {parent : Array Nat} (h : Increasing n parent) : IsForest n parent :=
  ⟨h.1, fun v hv => (h.2 v hv).2, ⟨fun v => v, fun v hv => (h.2 v hv).1⟩⟩

/-- `x` lies in the subtree rooted at `v` (ancestor first) -/
inductive Desc (par : Nat → Nat) (n : Nat) : Nat → Nat → Prop
  | refl (v : Nat) : Desc par n v v
  | step {v x : Nat} : x < n → Desc par n v (par x) → Desc par n v x

theorem Desc.trans {par : Nat → Nat} {n a b c : Nat} (h1 : Desc par n a b) (h2 : Desc par n b c) :
    Desc par n a c := by
  induction h2 with
  | refl => exact h1
  | step hx _ ih => exact Desc.step hx ih

theorem Desc.le {par : Nat → Nat} {n v x : Nat} (h : Desc par n v x) (hv : v ≤ n) : x ≤ n := by
  cases h with
  | refl => exact hv
  | step hx _ => exact Nat.le_of_lt hx

theorem Desc.chain {par : Nat → Nat} {n a b x : Nat} (h1 : Desc par n a x) (h2 : Desc par n b x) :
    Desc par n a b ∨ Desc par n b a := by
  induction h1 generalizing b with
  | refl => exact Or.inr h2
  | step hx h ih =>
      cases h2 with
      | refl => exact Or.inl (Desc.step hx h)
      | step _ h2' => exact ih h2'

theorem Desc.top {par : Nat → Nat} {n v : Nat} (h : Desc par n v n) : v = n := by
  cases h with
  | refl => rfl
  | step hx _ => omega

theorem Desc.eq_of_top {par : Nat → Nat} {n v x : Nat} (h : Desc par n v x) (hx : par x = n) (hv : v < n) :
    x = v := by
  cases h with
  | refl => rfl
  | step _ h' =>
      rw [hx] at h'
      have := h'.top
      omega

/-- `Desc` only reads the pointers of the vertices it passes (`v` excluded); `S` travels up the path with it -/
theorem Desc.congr_on {par par' : Nat → Nat} {n v x : Nat} (S : Nat → Prop) (h : Desc par n v x) (hx : S x)
    (hpar : ∀ y, y < n → S y → Desc par n v (par y) → par' y = par y ∧ S (par y)) : Desc par' n v x ∧ S v := by
  induction h with
  | refl => exact ⟨Desc.refl _, hx⟩
  | @step x hxn h' ih =>
      obtain ⟨e, hs⟩ := hpar x hxn hx h'
      obtain ⟨d, hv⟩ := ih hs
      exact ⟨Desc.step hxn (by rw [e]; exact d), hv⟩

theorem Desc.rank_le {par : Nat → Nat} {n : Nat} {rank : Nat → Nat} (hr : ∀ w, w < n → rank w < rank (par w))
    {v x : Nat} (h : Desc par n v x) : rank x ≤ rank v := by
  induction h with
  | refl => exact Nat.le_refl _
  | step hx _ ih =>
      have := hr _ hx
      omega

theorem Desc.le_of_increasing {par : Nat → Nat} {n v u : Nat} (hinc : ∀ x, x < n → x < par x)
    (h : Desc par n v u) : u ≤ v := h.rank_le (rank := fun x => x) hinc

/-- the hypotheses shared by the lemmas below: pointers stay in `0..n` (`hp`) and climb a rank (`hr`) -/
structure FCtx (par : Nat → Nat) (n : Nat) (rank : Nat → Nat) : Prop where
  hp : ∀ w, w < n → par w ≤ n
  hr : ∀ w, w < n → rank w < rank (par w)

theorem Increasing.fctx {n : Nat} {par : Array Nat} (h : Increasing n par) : FCtx (getN par) n (fun x => x) :=
  ⟨fun v hv => (h.2 v hv).2, fun v hv => (h.2 v hv).1⟩

section
variable {par : Nat → Nat} {n : Nat} {rank : Nat → Nat}

theorem Desc.eq_of_rank (c : FCtx par n rank) {v x : Nat} (h : Desc par n v x) (hr : rank v ≤ rank x) : x = v := by
  cases h with
  | refl => rfl
  | step hx h' =>
      have := c.hr _ hx
      have := h'.rank_le c.hr
      omega

theorem kid_rank_lt (c : FCtx par n rank) {v k : Nat} (hk : k ∈ kids par n v) : rank k < rank v := by
  obtain ⟨h1, h2⟩ := (mem_kids par).1 hk
  have := c.hr k h1
  rwa [h2] at this

theorem not_desc_sibling (c : FCtx par n rank) {v a b : Nat} (ha : a ∈ kids par n v) (hb : b ∈ kids par n v)
    (hne : a ≠ b) : ¬ Desc par n a b := by
  intro hd
  cases hd with
  | refl => exact hne rfl
  | step _ h' =>
      rw [((mem_kids par).1 hb).2] at h'
      have := h'.rank_le c.hr
      have := kid_rank_lt c ha
      omega

theorem mem_po_desc {f v x : Nat} (h : x ∈ po (kids par n) f v) : Desc par n v x := by
  induction f generalizing v x with
  | zero =>
      simp only [po, List.mem_singleton] at h
      subst h
      exact Desc.refl _
  | succ f ih =>
      simp only [po, List.mem_append, List.mem_flatMap, List.mem_singleton] at h
      rcases h with ⟨k, hk, hx⟩ | h
      · obtain ⟨hkn, rfl⟩ := (mem_kids par).1 hk
        exact (Desc.step hkn (Desc.refl _)).trans (ih hx)
      · subst h
        exact Desc.refl _

theorem self_mem_po (f v : Nat) : v ∈ po (kids par n) f v := by
  cases f <;> simp [po]

theorem mem_po_of_kid (c : FCtx par n rank) {f v y k : Nat} (hy : y ∈ po (kids par n) f v) (hr : rank v ≤ f)
    (hk : k < n) (hpk : par k = y) : k ∈ po (kids par n) f v := by
  induction f generalizing v with
  | zero =>
      simp only [po, List.mem_singleton] at hy
      subst hy
      have := c.hr k hk
      rw [hpk] at this
      omega
  | succ f ih =>
      simp only [po, List.mem_append, List.mem_flatMap, List.mem_singleton] at hy ⊢
      rcases hy with ⟨k', hk', hy⟩ | hy
      · exact Or.inl ⟨k', hk', ih hy (by have := kid_rank_lt c hk'; omega)⟩
      · subst hy
        exact Or.inl ⟨k, (mem_kids par).2 ⟨hk, hpk⟩, self_mem_po f k⟩

theorem mem_po_iff (c : FCtx par n rank) {f v x : Nat} (hr : rank v ≤ f) :
    x ∈ po (kids par n) f v ↔ Desc par n v x := by
  refine ⟨mem_po_desc, fun h => ?_⟩
  induction h with
  | refl => exact self_mem_po f _
  | step hx _ ih => exact mem_po_of_kid c ih hr hx rfl

/-- the shape of `po`: the subtrees of the kids in the order of the kids, then the root -/
theorem po_pairwise {R : Nat → Nat → Prop}
    (hsib : ∀ {v k1 k2 x y}, k1 ∈ kids par n v → k2 ∈ kids par n v → k1 < k2 →
      Desc par n k1 x → Desc par n k2 y → R x y)
    (hup : ∀ {v k x}, k ∈ kids par n v → Desc par n k x → R x v) :
    ∀ f v, (po (kids par n) f v).Pairwise R
  | 0, v => List.pairwise_singleton R v
  | f + 1, v => by
      rw [po, List.pairwise_append, List.pairwise_flatMap]
      refine ⟨⟨fun k _ => po_pairwise hsib hup f k, ?_⟩, List.pairwise_singleton R v, fun x hx y hy => ?_⟩
      · exact (kidsFrom_pairwise par).imp_of_mem fun hk1 hk2 hlt x hx y hy =>
          hsib hk1 hk2 hlt (mem_po_desc hx) (mem_po_desc hy)
      · obtain ⟨k, hk, hxk⟩ := List.mem_flatMap.1 hx
        rw [List.mem_singleton.1 hy]
        exact hup hk (mem_po_desc hxk)

theorem po_nodup (c : FCtx par n rank) {f v : Nat} : (po (kids par n) f v).Nodup := by
  refine po_pairwise (fun {v k1 k2 x y} hk1 hk2 hlt hx hy hxy => ?_) (fun {v k x} hk hx hxv => ?_) f v
  · subst hxy
    -- a vertex below two siblings would put one sibling below the other
    rcases Desc.chain hx hy with h | h
    · exact not_desc_sibling c hk1 hk2 (by omega) h
    · exact not_desc_sibling c hk2 hk1 (by omega) h
  · subst hxv
    have := hx.rank_le c.hr
    have := kid_rank_lt c hk
    omega

theorem po_fuel_irrel (c : FCtx par n rank) : ∀ {f f' v : Nat}, rank v ≤ f → rank v ≤ f' →
    po (kids par n) f v = po (kids par n) f' v := by
  have leaf : ∀ {f v}, rank v = 0 → po (kids par n) f v = [v] := by
    intro f v h0
    have : kids par n v = [] :=
      List.eq_nil_iff_forall_not_mem.2 fun k hk => by
        have := kid_rank_lt c hk
        omega
    cases f <;> simp [po, this]
  intro f
  induction f with
  | zero =>
      intro f' v h0 _
      rw [leaf (by omega), leaf (by omega)]
  | succ f ih =>
      intro f' v h1 h2
      cases f' with
      | zero => rw [leaf (by omega), leaf (by omega)]
      | succ f' =>
          simp only [po]
          congr 1
          apply flatMap_congr_mem
          intro k hk
          have := kid_rank_lt c hk
          exact ih (by omega) (by omega)

theorem po_segment (c : FCtx par n rank) {f v x : Nat} (hr : rank v ≤ f) (hx : x ∈ po (kids par n) f v) :
    ∃ A B, po (kids par n) f v = A ++ po (kids par n) (rank x) x ++ B := by
  induction f generalizing v with
  | zero =>
      simp only [po, List.mem_singleton] at hx
      subst hx
      refine ⟨[], [], ?_⟩
      rw [po_fuel_irrel c (Nat.le_refl _) hr]
      simp
  | succ f ih =>
      simp only [po, List.mem_append, List.mem_flatMap, List.mem_singleton] at hx
      rcases hx with ⟨k, hk, hx⟩ | hx
      · obtain ⟨A, B, hAB⟩ := ih (by have := kid_rank_lt c hk; omega) hx
        obtain ⟨l1, l2, hl⟩ := List.append_of_mem hk
        refine ⟨l1.flatMap (po (kids par n) f) ++ A, B ++ l2.flatMap (po (kids par n) f) ++ [v], ?_⟩
        simp only [po, hl, List.flatMap_append, List.flatMap_cons, hAB, List.append_assoc]
      · subst hx
        exact ⟨[], [], by rw [po_fuel_irrel c (Nat.le_refl _) hr]; simp⟩

theorem desc_root (c : FCtx par n rank) : ∀ v, v ≤ n → Desc par n n v := by
  refine rank_induction rank fun v hv ih => ?_
  rcases Nat.lt_or_eq_of_le hv with hvn | rfl
  · exact Desc.step hvn (ih _ (c.hp v hvn) (c.hr v hvn))
  · exact Desc.refl _

theorem po_root_perm (c : FCtx par n rank) : (po (kids par n) (rank n) n).Perm (List.range (n + 1)) := by
  rw [List.perm_ext_iff_of_nodup (po_nodup c) List.nodup_range]
  intro x
  rw [mem_po_iff c (Nat.le_refl _), List.mem_range]
  constructor
  · intro h
    have := h.le (Nat.le_refl _)
    omega
  · intro h
    exact desc_root c x (by omega)

theorem po_root_length (c : FCtx par n rank) : (po (kids par n) (rank n) n).length = n + 1 := by
  rw [(po_root_perm c).length_eq]
  simp

end

end Slu.Pre
