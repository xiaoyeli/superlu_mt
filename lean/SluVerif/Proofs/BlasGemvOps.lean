/- sp_?gemv without any algebraic law (any interpretation of `+ * 0 1`, IEEE NaN included): `spGemvAt` is an argument
   check, first offender wins (`spGemvAt_eq`), followed by `gemvRun` -/
import SluVerif.Proofs.BlasMem
namespace Slu.Blas

theorem ite_ok_eq_notImplemented {α : Type} (c : Prop) [Decidable c] {a : Array α} :
    (if c then GemvRes.ok a else .notImplemented) = .notImplemented ↔ ¬ c := by
  by_cases h : c
  · rw [if_pos h]
    exact ⟨nofun, fun h' => absurd h h'⟩
  · rw [if_neg h]
    exact ⟨fun _ => h, fun _ => rfl⟩

section Ops
variable {α : Type} [Add α] [Mul α] [Zero α] [One α] [DecidableEq α]

/-- the documented argument contract of sp_?gemv -/
def gemvArgsOk (trans : Char) (A : NCMat α) (incx incy : Int) : Prop :=
  (lsame trans 'N' = true ∨ lsame trans 'T' = true ∨ lsame trans 'C' = true) ∧ 0 ≤ A.nrow ∧ 0 ≤ A.ncol ∧ incx ≠ 0 ∧ incy ≠ 0

def gemvRun (trans : Char) (alpha : α) (A : NCMat α) (x : Array α) (xoff : Nat) (incx : Int)
    (beta : α) (y : Array α) (yoff : Nat) (incy : Int) : GemvRes α :=
  if A.nrow = 0 ∨ A.ncol = 0 ∨ (alpha = 0 ∧ beta = 1) then .ok y
  else
    let y1 := scaleY beta (if lsame trans 'N' then A.nrow else A.ncol) incy yoff y
    if alpha = 0 then .ok y1
    else if lsame trans 'N' then
      if incy = 1 then .ok (gemvN alpha A x xoff incx yoff y1) else .notImplemented
    else
      if incx = 1 then .ok (gemvT alpha A x xoff yoff incy y1) else .notImplemented

theorem spGemvAt_eq (trans : Char) (alpha : α) (A : NCMat α) (x : Array α) (xoff : Nat) (incx : Int)
    (beta : α) (y : Array α) (yoff : Nat) (incy : Int) :
    spGemvAt trans alpha A x xoff incx beta y yoff incy =
      if ¬ (lsame trans 'N' = true ∨ lsame trans 'T' = true ∨ lsame trans 'C' = true) then .xerbla 1
      else if A.nrow < 0 ∨ A.ncol < 0 then .xerbla 3
      else if incx = 0 then .xerbla 5
      else if incy = 0 then .xerbla 8
      else gemvRun trans alpha A x xoff incx beta y yoff incy := by
  unfold spGemvAt gemvRun
  simp only [not_and_not_and_not_eq_true]

theorem spGemvAt_of_ok {trans : Char} {A : NCMat α} {incx incy : Int} (hok : gemvArgsOk trans A incx incy)
    (alpha beta : α) (x y : Array α) (xoff yoff : Nat) :
    spGemvAt trans alpha A x xoff incx beta y yoff incy = gemvRun trans alpha A x xoff incx beta y yoff incy := by
  obtain ⟨h1, h2, h3, h4, h5⟩ := hok
  rw [spGemvAt_eq, if_neg (not_not_intro h1), if_neg (by omega), if_neg h4, if_neg h5]

theorem spGemvAt_of_not_ok {trans : Char} {A : NCMat α} {incx incy : Int} (h : ¬ gemvArgsOk trans A incx incy)
    (alpha beta : α) (x y : Array α) (xoff yoff : Nat) :
    ∃ k, spGemvAt trans alpha A x xoff incx beta y yoff incy = .xerbla k := by
  rw [spGemvAt_eq]
  split_ifs with hT hD hX hY
  pick_goal 4  -- the accepted case (the negated first test comes last)
  · exact absurd ⟨hT, by omega, by omega, hX, hY⟩ h
  all_goals exact ⟨_, rfl⟩

theorem gemvRun_ne_xerbla (trans : Char) (alpha beta : α) (A : NCMat α) (x y : Array α) (xoff yoff : Nat)
    (incx incy : Int) (k : Nat) : gemvRun trans alpha A x xoff incx beta y yoff incy ≠ .xerbla k := by
  unfold gemvRun
  split_ifs <;> nofun

theorem gemvRun_eq_notImplemented (trans : Char) (alpha beta : α) (A : NCMat α) (x y : Array α) (xoff yoff : Nat)
    (incx incy : Int) :
    gemvRun trans alpha A x xoff incx beta y yoff incy = .notImplemented ↔
      A.nrow ≠ 0 ∧ A.ncol ≠ 0 ∧ alpha ≠ 0 ∧
      (if lsame trans 'N' = true then incy ≠ 1 else incx ≠ 1) := by
  unfold gemvRun
  by_cases hE : A.nrow = 0 ∨ A.ncol = 0 ∨ (alpha = 0 ∧ beta = 1)
  · rw [if_pos hE]
    exact ⟨nofun, fun ⟨h1, h2, h3, _⟩ => (hE.elim h1 fun h => h.elim h2 fun h => h3 h.1).elim⟩
  · rw [if_neg hE, and_iff_right fun e => hE (.inl e), and_iff_right fun e => hE (.inr (.inl e))]
    by_cases ha : alpha = 0
    · rw [if_pos ha]
      exact ⟨nofun, fun h => absurd ha h.1⟩
    · rw [if_neg ha, and_iff_right ha]
      by_cases hN : lsame trans 'N' = true
      · simp only [if_pos hN]
        exact ite_ok_eq_notImplemented (incy = 1)
      · simp only [if_neg hN]
        exact ite_ok_eq_notImplemented (incx = 1)

omit [Add α] in
/-- the four loops of "First form y := beta*y" are one: `incy = 1` is stride 1, `beta = 0` stores the constant -/
theorem scaleY_eq (beta : α) (leny incy : Int) (yoff : Nat) (y : Array α) :
    scaleY beta leny incy yoff y = if beta = 1 then y else
      (List.range leny.toNat).foldl (fun y i => wr y (yoff + spos leny incy i)
        (if beta = 0 then 0 else beta * rd y (yoff + spos leny incy i))) y := by
  unfold scaleY
  by_cases h1 : incy = 1
  · subst h1
    simp only [if_true, spos_one]
    split_ifs <;> rfl
  · split_ifs <;> rfl

omit [Add α] in
theorem scaleY_zero_congr (h01 : (0 : α) ≠ 1) (leny incy : Int) (yoff : Nat) (y y' : Array α)
    (hs : y.size = y'.size)
    (hag : ∀ q, (∀ i < leny.toNat, q ≠ yoff + spos leny incy i) → rd y q = rd y' q) :
    scaleY (0 : α) leny incy yoff y = scaleY (0 : α) leny incy yoff y' := by
  simp only [scaleY_eq, if_neg h01, if_true]
  apply array_ext_rd
  · rw [foldl_keeps Array.size _ (by intro s k; simp), foldl_keeps Array.size _ (by intro s k; simp), hs]
  · intro k _
    rw [rd_foldl_zero (fun i => yoff + spos leny incy i), rd_foldl_zero (fun i => yoff + spos leny incy i)]
    by_cases he : ∃ i < leny.toNat, yoff + spos leny incy i = k
    · rw [if_pos he, if_pos he]
    · rw [if_neg he, if_neg he]
      exact hag k fun i hi e => he ⟨i, hi, e.symm⟩

end Ops
end Slu.Blas
