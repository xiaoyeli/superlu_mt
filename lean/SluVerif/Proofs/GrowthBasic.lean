/- transpose and ∞-norm of a dense matrix function with `‖Dᵀ‖₁ = ‖D‖∞`; the macros `rmax` / `rmin` of Model/Growth and
`rmaxTo` of Model/Lacon as `max` / `min` / `Equil.fmax` -/
import SluVerif.Model.Growth
import SluVerif.Proofs.EquilBasic

namespace Slu

def trD (D : Nat → Nat → Rat) : Nat → Nat → Rat := fun i j => D j i

/-- `‖D‖∞` = max absolute row sum -/
def normInf (n : Nat) (D : Nat → Nat → Rat) : Rat := rmaxTo n fun i => rsum n fun j => rabs (D i j)

theorem matVecT_eq (n : Nat) (B : Nat → Nat → Rat) : matVecT n B = matVec n (trD B) := rfl
theorem matVec_eq_T (n : Nat) (B : Nat → Nat → Rat) : matVec n B = matVecT n (trD B) := rfl
theorem norm1_trD (n : Nat) (D : Nat → Nat → Rat) : norm1 n (trD D) = normInf n D := rfl
theorem normInf_trD (n : Nat) (D : Nat → Nat → Rat) : normInf n (trD D) = norm1 n D := rfl

/-- the two macros are written as in Model/Equil.lean -/
theorem rmax_eq_max : rmax = max := funext fun a => funext (Equil.rmax_eq a)

theorem rmin_eq_min : rmin = min := funext fun a => funext (Equil.rmin_eq a)

theorem rmaxTo_eq (n : Nat) (f : Nat → Rat) : rmaxTo n f = Equil.fmax 0 ((List.range n).map f) := by
  unfold rmaxTo Equil.fmax
  rw [List.foldl_map]
  congr 1
  funext m i
  exact (max_def_lt m (f i)).symm

theorem rmaxTo_nonneg (n : Nat) (f : Nat → Rat) : 0 ≤ rmaxTo n f := by
  rw [rmaxTo_eq]
  exact Equil.fmax_ge_init 0

theorem le_rmaxTo (n : Nat) (f : Nat → Rat) : ∀ i, i < n → f i ≤ rmaxTo n f := by
  intro i hi
  rw [rmaxTo_eq]
  exact Equil.le_fmax_map 0 f (List.mem_range.mpr hi)

theorem rmaxTo_attained (n : Nat) (f : Nat → Rat) : rmaxTo n f = 0 ∨ ∃ i, i < n ∧ rmaxTo n f = f i := by
  rw [rmaxTo_eq]
  exact (Equil.fmax_map_attained 0 _ f).imp_right fun ⟨i, hi, hie⟩ => ⟨i, List.mem_range.mp hi, hie.symm⟩

end Slu
