/- one call of `?lacon_` as a case rule over its jump labels, and the caller's loop: a rank on the static
state decreases with every call, so an invariant of the call is an invariant of the whole dialogue -/
import SluVerif.Model.Lacon

namespace Slu

/-- calls still to come, at most: one per label on the way L20, L40, (L70, L110)*, L140, the pair once per value
of `iter` up to `ITMAX`; 10 = 1 + the rank at label 3 with `iter = 2`, 11 = 1 + 10.  The subtraction clips at 0, so
no invariant on `iter` is needed. -/
def laconRankJ (jump iter : Nat) : Nat :=
  match jump with
  | 2 => 10
  | 3 => 3 + 2 * (laconItmax - iter)
  | 4 => 2 + 2 * (laconItmax - iter)
  | 5 => 1
  | _ => 11

/-- before the start call (`kase = 0`): one more than at L20 -/
def laconRank (st : LaconSt) (io : LaconIO) : Nat := if io.kase = 0 then 12 else laconRankJ st.jump st.iter

theorem laconRank_pos (st : LaconSt) (io : LaconIO) : 0 < laconRank st io := by
  unfold laconRank
  split
  · omega
  · unfold laconRankJ
    split <;> omega

/-- what the next call sees once the operator has answered -/
def laconNextIO (apply applyT : RVec → RVec) (io : LaconIO) : LaconIO :=
  { io with x := if io.kase = 1 then apply io.x else applyT io.x }

/-- the call at `(st, io)` quits in `Q`, or its rank drops and the state after the answer is in `Post` -/
def LaconStepAt (n : Nat) (apply applyT : RVec → RVec) (Post : LaconSt → LaconIO → Prop) (Q : LaconIO → Prop)
    (st : LaconSt) (io : LaconIO) : Prop :=
  ((laconCall n st io).2.kase = 0 ∧ Q (laconCall n st io).2) ∨
  ((laconCall n st io).2.kase ≠ 0 ∧
    laconRank (laconCall n st io).1 (laconNextIO apply applyT (laconCall n st io).2) < laconRank st io ∧
    Post (laconCall n st io).1 (laconNextIO apply applyT (laconCall n st io).2))

/-- an invariant of the call: what the loop rule `laconLoop_spec` asks for -/
def LaconStep (n : Nat) (apply applyT : RVec → RVec) (Inv : LaconSt → LaconIO → Prop) (Q : LaconIO → Prop) :
    Prop :=
  ∀ st io, Inv st io → LaconStepAt n apply applyT Inv Q st io

/-- One call of `?lacon_` and the operator's answer, label by label.  `L70` covers both exits from label 3 to L120; a
primed name is the other exit of its label and comes without the negated test. -/
theorem laconCall_cases {Post : LaconSt → LaconIO → Prop} {Q : LaconIO → Prop} (n : Nat)
    (apply applyT : RVec → RVec) (st : LaconSt) (io : LaconIO)
    (start : io.kase = 0 →
      Post { st with jump := 1 } { io with x := apply (rmk n fun _ => 1 / (n : Rat)), kase := 1 })
    (L40 : io.kase ≠ 0 → st.jump = 2 →
      Post { st with j := idamax n io.x, iter := 2, jump := 3 }
        { io with x := apply (unitVec n (idamax n io.x)), kase := 1 })
    (L70 : io.kase ≠ 0 → st.jump = 3 →
      Post { st with estold := io.est, jump := 5 }
        { io with v := vcopy n io.x, est := asum n io.x, x := apply (altVec n), kase := 1 })
    (L90 : io.kase ≠ 0 → st.jump = 3 → io.est < asum n io.x →
      Post { st with estold := io.est, jump := 4 }
        { io with v := vcopy n io.x, est := asum n io.x, x := applyT (signVec n io.x), isgn := isgnOf n io.x,
                  kase := 2 })
    (L110 : io.kase ≠ 0 → st.jump = 4 → st.iter < laconItmax →
      Post { st with jlast := st.j, j := idamax n io.x, iter := st.iter + 1, jump := 3 }
        { io with x := apply (unitVec n (idamax n io.x)), kase := 1 })
    (L110' : io.kase ≠ 0 → st.jump = 4 →
      Post { st with jlast := st.j, j := idamax n io.x, jump := 5 } { io with x := apply (altVec n), kase := 1 })
    (L140 : io.kase ≠ 0 → st.jump = 5 → io.est < asum n io.x / (((n * 3 : Nat) : Int) : Rat) * 2 →
      Q { io with v := vcopy n io.x, est := asum n io.x / (((n * 3 : Nat) : Int) : Rat) * 2, kase := 0 })
    (L140' : io.kase ≠ 0 → st.jump = 5 → Q { io with kase := 0 })
    (L20 : io.kase ≠ 0 → st.jump ≠ 2 → st.jump ≠ 3 → st.jump ≠ 4 → st.jump ≠ 5 → n = 1 →
      Q { io with v := vcopy n io.x, est := rabs (rget io.x 0), kase := 0 })
    (L20' : io.kase ≠ 0 → st.jump ≠ 2 → st.jump ≠ 3 → st.jump ≠ 4 → st.jump ≠ 5 →
      Post { st with jump := 2 }
        { io with est := asum n io.x, x := applyT (signVec n io.x), isgn := isgnOf n io.x, kase := 2 }) :
    LaconStepAt n apply applyT Post Q st io := by
  have hI : laconItmax = 5 := rfl
  have hr : ∀ j, io.kase ≠ 0 → st.jump = j → laconRank st io = laconRankJ j st.iter := by
    intro j hk hj
    rw [← hj]
    exact if_neg hk
  unfold LaconStepAt laconCall
  dsimp only
  -- each `show` displays the rank of the state the call leaves, from `laconRankJ`
  split
  next hk =>
    refine .inr ⟨Nat.one_ne_zero, ?_, start hk⟩
    rw [show laconRank st io = 12 from if_pos hk]
    show 11 < 12
    omega
  next hk =>
    split
    next hj =>
      refine .inr ⟨Nat.one_ne_zero, ?_, L40 hk hj⟩
      rw [hr 2 hk hj]
      show 3 + 2 * (laconItmax - 2) < 10
      omega
    next hj =>
      have h120 : (1 : Nat) < laconRank st io := by
        rw [hr 3 hk hj]
        show 1 < 3 + _
        omega
      split
      next => exact .inr ⟨Nat.one_ne_zero, h120, L70 hk hj⟩
      next =>
        split
        next => exact .inr ⟨Nat.one_ne_zero, h120, L70 hk hj⟩
        next hgt =>
          refine .inr ⟨Nat.succ_ne_zero 1, ?_, L90 hk hj (Rat.not_le.mp hgt)⟩
          rw [hr 3 hk hj]
          show 2 + 2 * (laconItmax - st.iter) < 3 + _
          omega
    next hj =>
      split
      next ht =>
        refine .inr ⟨Nat.one_ne_zero, ?_, L110 hk hj ht.2⟩
        have hiter : st.iter < laconItmax := ht.2
        rw [hr 4 hk hj]
        show 3 + 2 * (laconItmax - (st.iter + 1)) < 2 + 2 * (laconItmax - st.iter)
        omega
      next =>
        refine .inr ⟨Nat.one_ne_zero, ?_, L110' hk hj⟩
        rw [hr 4 hk hj]
        show 1 < 2 + _
        omega
    next hj =>
      split
      next ht => exact .inl ⟨rfl, L140 hk hj ht⟩
      next => exact .inl ⟨rfl, L140' hk hj⟩
    next h2 h3 h4 h5 =>
      split
      next h1 => exact .inl ⟨rfl, L20 hk h2 h3 h4 h5 h1⟩
      next =>
        refine .inr ⟨Nat.succ_ne_zero 1, ?_, L20' hk h2 h3 h4 h5⟩
        have : laconRankJ st.jump st.iter = 11 := by
          unfold laconRankJ
          split
          next hj => exact absurd hj h2
          next hj => exact absurd hj h3
          next hj => exact absurd hj h4
          next hj => exact absurd hj h5
          next => rfl
        rw [show laconRank st io = 11 from (if_neg hk).trans this]
        show 10 < 11
        omega

theorem laconLoop_succ (n : Nat) (apply applyT : RVec → RVec) (f : Nat) (st : LaconSt) (io : LaconIO) (k : Nat) :
    laconLoop n apply applyT (f + 1) st io k =
      if (laconCall n st io).2.kase = 0 then { st := (laconCall n st io).1, io := (laconCall n st io).2, applies := k }
      else laconLoop n apply applyT f (laconCall n st io).1 (laconNextIO apply applyT (laconCall n st io).2)
        (k + 1) := by
  rfl

/-- with fuel for the rank the loop ends with `kase = 0`, after fewer applications than the rank, in `Q` -/
theorem laconLoop_spec {n : Nat} {apply applyT : RVec → RVec} {Inv : LaconSt → LaconIO → Prop}
    {Q : LaconIO → Prop} (step : LaconStep n apply applyT Inv Q) :
    ∀ (fuel : Nat) (st : LaconSt) (io : LaconIO) (k : Nat), laconRank st io ≤ fuel → Inv st io →
      (laconLoop n apply applyT fuel st io k).io.kase = 0 ∧
      (laconLoop n apply applyT fuel st io k).applies + 1 ≤ k + laconRank st io ∧
      Q (laconLoop n apply applyT fuel st io k).io := by
  intro fuel
  induction fuel with
  | zero =>
    intro st io k hr
    have := laconRank_pos st io
    omega
  | succ f ih =>
    intro st io k hr hinv
    have hpos := laconRank_pos st io
    rw [laconLoop_succ]
    rcases step st io hinv with ⟨h0, hstep⟩ | ⟨h0, hlt, hstep⟩
    · rw [if_pos h0]
      exact ⟨h0, by show k + 1 ≤ _; omega, hstep⟩
    · rw [if_neg h0]
      have := ih (laconCall n st io).1 (laconNextIO apply applyT (laconCall n st io).2) (k + 1) (by omega) hstep
      exact ⟨this.1, by omega, this.2.2⟩

/-- the whole dialogue from an invariant of the call that holds initially: `laconFuel = 12` is the initial rank -/
theorem runLacon_spec {n : Nat} {apply applyT : RVec → RVec} {Inv : LaconSt → LaconIO → Prop}
    {Q : LaconIO → Prop} (step : LaconStep n apply applyT Inv Q) (h0 : Inv {} (laconInitIO n)) :
    (runLacon n apply applyT).io.kase = 0 ∧ (runLacon n apply applyT).applies ≤ 11 ∧
      Q (runLacon n apply applyT).io := by
  have h := laconLoop_spec step laconFuel {} (laconInitIO n) 0 (Nat.le_refl 12) h0
  have hr : laconRank {} (laconInitIO n) = 12 := rfl
  have happ : (runLacon n apply applyT).applies ≤ 11 := by
    unfold runLacon
    omega
  exact ⟨h.1, happ, h.2.2⟩

end Slu
