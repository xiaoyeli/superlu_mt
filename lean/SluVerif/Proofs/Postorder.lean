/- TreePostorder / nr_etdfs: the child lists, the recursive specification `po`, and the simulation of the walk. -/
import SluVerif.Proofs.EtreeBasic
namespace Slu.Pre

section kids
variable (par : Nat → Nat)

/-- the `w` among `v, .., v+k-1` with `par w = d`; the count `k` (`n - v` in `kidsFrom`) makes the recursion
structural -/
def kidsFromK (d : Nat) : Nat → Nat → List Nat
  | 0, _ => []
  | k + 1, v => if par v = d then v :: kidsFromK d k (v + 1) else kidsFromK d k (v + 1)

theorem kidsFromK_eq_filter (d : Nat) :
    ∀ k v, kidsFromK par d k v = (List.range' v k).filter (fun w => par w = d)
  | 0, _ => rfl
  | k + 1, v => by
      rw [kidsFromK, kidsFromK_eq_filter d k, List.range'_succ, List.filter_cons]
      simp only [decide_eq_true_eq]

def kidsFrom (n d v : Nat) : List Nat := kidsFromK par d (n - v) v
/-- all kids of `d`, increasing: the order in which `first_kid/next_kid` chain them -/
def kids (n d : Nat) : List Nat := kidsFrom par n d 0

theorem mem_kidsFrom {n d v w : Nat} : w ∈ kidsFrom par n d v ↔ v ≤ w ∧ w < n ∧ par w = d := by
  rw [kidsFrom, kidsFromK_eq_filter, List.mem_filter, List.mem_range'_1, decide_eq_true_eq]
  omega

theorem mem_kids {n d w : Nat} : w ∈ kids par n d ↔ w < n ∧ par w = d := by
  unfold kids
  rw [mem_kidsFrom]
  simp

theorem kidsFrom_pairwise {n d v : Nat} : (kidsFrom par n d v).Pairwise (· < ·) := by
  rw [kidsFrom, kidsFromK_eq_filter]
  exact List.Pairwise.filter _ List.pairwise_lt_range'

theorem kidsFrom_step {n d v : Nat} (h : v < n) :
    kidsFrom par n d v = if par v = d then v :: kidsFrom par n d (v + 1) else kidsFrom par n d (v + 1) := by
  unfold kidsFrom
  rw [show n - v = (n - (v + 1)) + 1 by omega]
  rfl

theorem kidsFrom_ge {n d v : Nat} (h : n ≤ v) : kidsFrom par n d v = [] := by
  unfold kidsFrom
  rw [show n - v = 0 by omega]
  rfl

/-- what reading `first_kid[d]` or `next_kid[w]`, heads of these lists, tells the walk -/
theorem kidsFrom_of_head {n d w v : Nat} (h : (kidsFrom par n d v).head? = some w) :
    v ≤ w ∧ w < n ∧ par w = d ∧ kidsFrom par n d v = w :: kidsFrom par n d (w + 1) := by
  induction hk : n - v using Nat.strongRecOn generalizing v with
  | _ k ih =>
    by_cases hv : v < n
    · rw [kidsFrom_step par hv] at h ⊢
      split at h
      next he =>
        cases h
        exact ⟨Nat.le_refl _, hv, he, by rw [if_pos he]⟩
      next he =>
        rw [if_neg he]
        obtain ⟨h1, rest⟩ := ih (n - (v + 1)) (by omega) h rfl
        exact ⟨by omega, rest⟩
    · rw [kidsFrom_ge par (by omega)] at h
      cases h

end kids

/-- `kidsLoop` running downwards, `v .. n-1` done: `first_kid[d]` is the first kid of `d` among them, `next_kid[w]`
the next sibling of `w`; `next_kid[n]` is never written and stays `0 ≠ -1`, which stops the walk at the root -/
structure KidsInv (parent : Array Nat) (n v : Nat) (fk nk : Array (Option Nat)) : Prop where
  fksz : fk.size = n + 1
  nksz : nk.size = n + 1
  hfk : ∀ d, d ≤ n → getO fk d = (kidsFrom (getN parent) n d v).head?
  hnk : ∀ w, v ≤ w → w < n → getO nk w = (kidsFrom (getN parent) n (getN parent w) (w + 1)).head?
  hnkn : getO nk n = some 0

theorem kidsLoop_inv (parent : Array Nat) (n : Nat) (hp : ∀ w, w < n → getN parent w ≤ n) :
    ∀ (v : Nat) (fk nk : Array (Option Nat)), v ≤ n → KidsInv parent n v fk nk →
      KidsInv parent n 0 (kidsLoop parent v (fk, nk)).1 (kidsLoop parent v (fk, nk)).2
  | 0, fk, nk, _, h => by simpa [kidsLoop] using h
  | v + 1, fk, nk, hv, h => by
      unfold kidsLoop
      apply kidsLoop_inv parent n hp v _ _ (by omega)
      have hvn : v < n := by omega
      have hd := hp v hvn
      constructor
      · simp [h.fksz]
      · simp [h.nksz]
      · intro d hdn
        rw [kidsFrom_step _ hvn]
        by_cases he : getN parent v = d
        · rw [if_pos he, he, getO_set_self (by rw [h.fksz]; omega)]
          rfl
        · rw [if_neg he, getO_set_ne he]
          exact h.hfk d hdn
      · intro w hw hwn
        by_cases he : v = w
        · subst he
          rw [getO_set_self (by rw [h.nksz]; omega)]
          exact h.hfk _ hd
        · rw [getO_set_ne he]
          exact h.hnk w (by omega) hwn
      · rw [getO_set_ne (by omega)]
        exact h.hnkn

theorem buildKids_inv (parent : Array Nat) (n : Nat) (hp : ∀ w, w < n → getN parent w ≤ n) :
    KidsInv parent n 0 (buildKids n parent).1 (buildKids n parent).2 := by
  unfold buildKids
  apply kidsLoop_inv parent n hp n _ _ (Nat.le_refl _)
  constructor
  · simp
  · simp
  · intro d hd
    rw [getO_replicate, kidsFrom_ge _ (Nat.le_refl _)]
    simp
  · intro w hw hwn
    omega
  · rw [getO_replicate]
    simp

/-- postorder list of the subtree of `v`, `f` = recursion depth allowed: the recursive `etdfs` of sp_coletree.c,
whose call in `TreePostorder` is under `#if 0` -/
def po (kd : Nat → List Nat) : Nat → Nat → List Nat
  | 0, v => [v]
  | f + 1, v => (kd v).flatMap (po kd f) ++ [v]

theorem po_length_pos {kd : Nat → List Nat} (f v : Nat) : 1 ≤ (po kd f v).length := by
  cases f <;> simp [po]

/-- `post[x] = pn++` for the vertices of the list, in order -/
def numberAll (post : Array Nat) (pn : Nat) : List Nat → Array Nat
  | [] => post
  | x :: l => numberAll (post.setIfInBounds x pn) (pn + 1) l

theorem numberAll_append (post : Array Nat) (pn : Nat) (l1 l2 : List Nat) :
    numberAll post pn (l1 ++ l2) = numberAll (numberAll post pn l1) (pn + l1.length) l2 := by
  induction l1 generalizing post pn with
  | nil => simp [numberAll]
  | cons x l ih =>
      simp only [List.cons_append, numberAll, List.length_cons]
      rw [ih]
      have : pn + 1 + l.length = pn + (l.length + 1) := by omega
      rw [this]

theorem numberAll_size (post : Array Nat) (pn : Nat) (l : List Nat) : (numberAll post pn l).size = post.size := by
  induction l generalizing post pn with
  | nil => rfl
  | cons x l ih => simp [numberAll, ih]

/-- the walk entered at `v` (outer loop head) leaves it at its climb point having numbered the list `P v`, in
`2·|P v| - 1` steps, for the `v` with `R v`; `g` is fuel to spare.  `pn ≠ n` is the guard `postnum != n`, the
`+ 1` in the bound the dummy root. -/
def SimNode (n : Nat) (parent : Array Nat) (fk nk : Array (Option Nat)) (R : Nat → Prop) (P : Nat → List Nat) :
    Prop :=
  ∀ v, v ≤ n → R v → ∀ (g pn : Nat) (post : Array Nat), pn ≠ n → pn + (P v).length ≤ n + 1 →
    walk n parent fk nk (g + 2 * (P v).length) false v pn post =
    walk n parent fk nk (g + 1) true v (pn + (P v).length) (numberAll post pn (P v))

section sim
variable {n : Nat} {parent : Array Nat} {fk nk : Array (Option Nat)} {rank : Nat → Nat}

/-- entered at the first of the kids of `d` from `v` on, the walk numbers them all and then `d`.  Induction along
the kids; `simNode` (induction on the depth) calls it with the `SimNode` one level down. -/
theorem simList (inv : KidsInv parent n 0 fk nk) {R : Nat → Prop} {P : Nat → List Nat}
    (hpos : ∀ v, 1 ≤ (P v).length) (hN : SimNode n parent fk nk R P) {d : Nat} (hR : ∀ w, w < n → getN parent w = d → R w) :
    ∀ (v w : Nat), (kidsFrom (getN parent) n d v).head? = some w →
    ∀ (g pn : Nat) (post : Array Nat), pn + ((kidsFrom (getN parent) n d v).flatMap P).length ≤ n →
      walk n parent fk nk (g + 2 * ((kidsFrom (getN parent) n d v).flatMap P).length) false w pn post =
      walk n parent fk nk g true d (pn + ((kidsFrom (getN parent) n d v).flatMap P).length + 1)
        (numberAll post pn ((kidsFrom (getN parent) n d v).flatMap P ++ [d])) := by
  intro v
  induction hm : n - v using Nat.strongRecOn generalizing v with
  | _ m ih =>
    intro w hf g pn post hb
    obtain ⟨hvw, hw, hpw, h4⟩ := kidsFrom_of_head _ hf
    rw [h4] at hb ⊢
    simp only [List.flatMap_cons, List.length_append] at hb ⊢
    have hlen := hpos w
    rw [show g + 2 * ((P w).length + ((kidsFrom (getN parent) n d (w + 1)).flatMap P).length) =
        (g + 2 * ((kidsFrom (getN parent) n d (w + 1)).flatMap P).length) + 2 * (P w).length by omega,
      hN w (Nat.le_of_lt hw) (hR w hw hpw) _ pn post (by omega) (by omega)]
    -- at the climb point of `w` with fuel `_ + 1`: `rw [walk]` unfolds that visit, `hnk` and `hf'` pick its branch
    have hnk := inv.hnk w (Nat.zero_le _) hw
    rw [hpw] at hnk
    cases hf' : (kidsFrom (getN parent) n d (w + 1)).head? with
    | none =>
      rw [List.head?_eq_none_iff.1 hf']
      simp only [List.flatMap_nil, List.length_nil, Nat.mul_zero, Nat.add_zero, List.append_nil]
      rw [walk, hnk, hf']
      simp only [hpw]
      rw [numberAll_append]
      rfl
    | some w' =>
      rw [walk, hnk, hf']
      simp only
      rw [if_neg (by omega), ih (n - (w + 1)) (by omega) (w + 1) rfl w' hf' g _ _ (by omega), List.append_assoc,
        numberAll_append post pn]
      simp only [Nat.add_assoc]

theorem simNode (inv : KidsInv parent n 0 fk nk) (hrk : ∀ w, w < n → rank w < rank (getN parent w)) :
    ∀ f, SimNode n parent fk nk (fun v => rank v ≤ f) (po (kids (getN parent) n) f)
  | 0 => by
      intro v hv hr g pn post hpn hb
      simp only [po, List.length_singleton] at hb ⊢
      have hfk := inv.hfk v hv
      cases hf : (kidsFrom (getN parent) n v 0).head? with
      | none =>
        rw [walk, if_neg hpn, hfk, hf]
        rfl
      | some w =>
        obtain ⟨_, h2, h3, _⟩ := kidsFrom_of_head _ hf
        have := hrk w h2
        rw [h3] at this
        omega
  | f + 1 => by
      intro v hv hr g pn post hpn hb
      have hfk := inv.hfk v hv
      simp only [po, kids, List.length_append, List.length_singleton] at hb ⊢
      cases hf : (kidsFrom (getN parent) n v 0).head? with
      | none =>
        simp only [List.head?_eq_none_iff.1 hf, List.flatMap_nil, List.nil_append, List.length_nil,
          Nat.zero_add] at hb ⊢
        rw [walk, if_neg hpn, hfk, hf]
        rfl
      | some w =>
        rw [show ∀ a : Nat, g + 2 * (a + 1) = ((g + 1) + 2 * a) + 1 by omega, walk, if_neg hpn, hfk, hf]
        simp only
        rw [simList inv (po_length_pos f) (simNode inv hrk f)
          (fun w hw hpw => by
            have := hrk w hw
            rw [hpw] at this
            omega)
          0 w hf (g + 1) pn post (by omega)]
        simp only [Nat.add_assoc]

end sim

end Slu.Pre
