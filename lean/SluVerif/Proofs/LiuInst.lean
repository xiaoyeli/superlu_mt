/- instances of `liuRun_eq_ref`: sp_symetree; sp_coletree, through what `firstcol[]` holds (`firstCol_spec`) and
   the first-column-star lemma (`fill_star_eq_ata`); the tabulated references the driver prints are the same. -/
import SluVerif.Proofs.Liu
namespace Slu.Pre

theorem symEtree_eq_ref (colbeg colend rowind : Array Nat) (n : Nat) :
    symEtree colbeg colend rowind n = etreeRef n (symAdj colbeg colend rowind) := by
  have h1 : symEtree colbeg colend rowind n =
      (liuRun n (fun col => (colRange colbeg colend col).map (getN rowind))).parent := rfl
  rw [h1, liuRun_eq_ref]
  apply etreeRef_congr
  intro a b _ _
  unfold liuGraph symAdj hasEntry
  rw [List.contains_map, List.contains_map, Bool.or_comm]
  simp only [BEq.comm (a := a), BEq.comm (a := b)]

theorem symEtree_increasing (colbeg colend rowind : Array Nat) (n : Nat) :
    Increasing n (symEtree colbeg colend rowind n) := liuRun_increasing n _

theorem symEtreeRef_eq (colbeg colend rowind : Array Nat) (n : Nat) :
    symEtreeRef colbeg colend rowind n = etreeRef n (symAdj colbeg colend rowind) := by
  unfold symEtreeRef
  apply etreeRef_congr
  intro a b ha hb
  exact tabGet_tabulate n _ ha hb

theorem hasEntry_iff {colbeg colend rowind : Array Nat} {r c : Nat} :
    hasEntry colbeg colend rowind r c = true ↔ ∃ p, p ∈ colRange colbeg colend c ∧ getN rowind p = r := by
  unfold hasEntry
  simp only [List.any_eq_true, beq_iff_eq]

/-- `for x in L: a[x.1] = min (a[x.1], x.2)`: an entry ends as the least value written to it, or stays (`a'` is a
variable so that the recursion on `L` can move the start array) -/
theorem minScatter_spec : ∀ (L : List (Nat × Nat)) (a a' : Array Nat),
    L.foldl (fun a x => a.setIfInBounds x.1 (min (getN a x.1) x.2)) a = a' →
    (∀ x, x ∈ L → x.1 < a.size → getN a' x.1 ≤ x.2) ∧
    ∀ r, getN a' r ≤ getN a r ∧ (getN a' r = getN a r ∨ ∃ x, x ∈ L ∧ x.1 = r ∧ getN a' r = x.2)
  | [], a, _, rfl => ⟨fun x hx => (nomatch hx), fun r => ⟨Nat.le_refl _, Or.inl rfl⟩⟩
  | y :: L, a, a', h => by
      obtain ⟨ih1, ih2⟩ := minScatter_spec L (a.setIfInBounds y.1 (min (getN a y.1) y.2)) a' h
      have hstep : ∀ r, getN (a.setIfInBounds y.1 (min (getN a y.1) y.2)) r ≤ getN a r := by
        intro r
        rw [getN_set]
        split
        next hw =>
          rw [← hw.1]
          exact Nat.min_le_left _ _
        next => exact Nat.le_refl _
      refine ⟨fun x hx hxs => ?_, fun r => ⟨Nat.le_trans (ih2 r).1 (hstep r), ?_⟩⟩
      · rcases List.mem_cons.1 hx with rfl | hx
        · refine Nat.le_trans (ih2 x.1).1 ?_
          rw [getN_set_self hxs]
          exact Nat.min_le_right _ _
        · exact ih1 x hx (by rw [Array.size_setIfInBounds]; exact hxs)
      · rcases (ih2 r).2 with h | ⟨x, hx, e1, e2⟩
        · rw [h, getN_set]
          split
          next hw =>
            rw [← hw.1]
            rcases Nat.le_total (getN a y.1) y.2 with hle | hle
            · exact Or.inl (Nat.min_eq_left hle)
            · exact Or.inr ⟨y, List.mem_cons_self, rfl, Nat.min_eq_right hle⟩
          next => exact Or.inl rfl
        · exact Or.inr ⟨x, List.mem_cons_of_mem _ hx, e1, e2⟩

theorem firstCol_spec (colbeg colend rowind : Array Nat) (nr nc : Nat) :
    (∀ r c, r < nr → c < nc → hasEntry colbeg colend rowind r c = true →
      getN (firstCol colbeg colend rowind nr nc) r ≤ c) ∧
    (∀ r, r < nr → getN (firstCol colbeg colend rowind nr nc) r < nc →
      hasEntry colbeg colend rowind r (getN (firstCol colbeg colend rowind nr nc) r) = true) := by
  -- the nested loops as one loop over the pairs (row, col) of the pattern
  obtain ⟨h1, h2⟩ := minScatter_spec
    ((List.range nc).flatMap fun col => (colRange colbeg colend col).map fun p => (getN rowind p, col))
    (Array.replicate nr nc) (firstCol colbeg colend rowind nr nc) (by
      rw [List.foldl_flatMap]
      simp only [List.foldl_map]
      rfl)
  refine ⟨fun r c hr hc he => ?_, fun r hr hlt => ?_⟩
  · obtain ⟨p, hp, hpr⟩ := hasEntry_iff.1 he
    have hmem : (r, c) ∈ (List.range nc).flatMap fun col =>
        (colRange colbeg colend col).map fun p => (getN rowind p, col) :=
      List.mem_flatMap.2 ⟨c, List.mem_range.2 hc, List.mem_map.2 ⟨p, hp, by rw [hpr]⟩⟩
    exact h1 (r, c) hmem (by simpa using hr)
  · rcases (h2 r).2 with h | ⟨x, hx, e1, e2⟩
    · rw [h, getN_replicate, if_pos hr] at hlt
      omega
    · obtain ⟨c, _, hx⟩ := List.mem_flatMap.1 hx
      obtain ⟨p, hp, rfl⟩ := List.mem_map.1 hx
      rw [e2]
      exact hasEntry_iff.2 ⟨p, hp, e1⟩

theorem ataAdj_iff {colbeg colend rowind : Array Nat} {nr a b : Nat} :
    ataAdj colbeg colend rowind nr a b = true ↔
      (a ≠ b ∧ ∃ r, r < nr ∧
        hasEntry colbeg colend rowind r a = true ∧ hasEntry colbeg colend rowind r b = true) := by
  unfold ataAdj
  simp only [Bool.and_eq_true, decide_eq_true_eq, List.any_eq_true, List.mem_range]

theorem ataAdj_symm {colbeg colend rowind : Array Nat} {nr : Nat} (a b : Nat) :
    ataAdj colbeg colend rowind nr a b = ataAdj colbeg colend rowind nr b a := by
  rw [Bool.eq_iff_iff, ataAdj_iff, ataAdj_iff]
  constructor
  · rintro ⟨h1, r, h2, h3, h4⟩
    exact ⟨fun e => h1 e.symm, r, h2, h4, h3⟩
  · rintro ⟨h1, r, h2, h3, h4⟩
    exact ⟨fun e => h1 e.symm, r, h2, h4, h3⟩

theorem ataAdj_congr {cb ce cb' ce' rowind : Array Nat} {nr a b a' b' : Nat}
    (ha : colRange cb' ce' a' = colRange cb ce a) (hb : colRange cb' ce' b' = colRange cb ce b)
    (hab : a' = b' ↔ a = b) :
    ataAdj cb' ce' rowind nr a' b' = ataAdj cb ce rowind nr a b := by
  unfold ataAdj hasEntry
  rw [ha, hb]
  simp only [ne_eq, hab]

section star
variable (colbeg colend rowind : Array Nat) (nr nc : Nat)

/-- the rows Liu's loop sees in `sp_coletree`: each row index replaced by the first column of that row -/
def starRows (col : Nat) : List Nat :=
  (colRange colbeg colend col).map (fun p => getN (firstCol colbeg colend rowind nr nc) (getN rowind p))

theorem colEtree_eq_liuRun :
    colEtree colbeg colend rowind nr nc = (liuRun nc (starRows colbeg colend rowind nr nc)).parent := rfl

theorem colEtree_increasing : Increasing nc (colEtree colbeg colend rowind nr nc) :=
  liuRun_increasing nc (starRows colbeg colend rowind nr nc)

theorem star_edge_iff {a b : Nat} (h : b < a) :
    liuGraph (starRows colbeg colend rowind nr nc) a b = true ↔
      ∃ p, p ∈ colRange colbeg colend a ∧ getN (firstCol colbeg colend rowind nr nc) (getN rowind p) = b := by
  rw [liuGraph_lt _ h]
  unfold starRows
  simp only [List.mem_map]

theorem star_sub_ata (hrows : ∀ c, c < nc → ∀ p, p ∈ colRange colbeg colend c → getN rowind p < nr)
    {a b : Nat} (ha : a < nc) (hb : b < nc)
    (h : liuGraph (starRows colbeg colend rowind nr nc) a b = true) :
    ataAdj colbeg colend rowind nr a b = true := by
  have hfc := firstCol_spec colbeg colend rowind nr nc
  have key : ∀ c d, c < nc → d < nc → d < c → liuGraph (starRows colbeg colend rowind nr nc) c d = true →
      ∃ r, r < nr ∧ hasEntry colbeg colend rowind r c = true ∧ hasEntry colbeg colend rowind r d = true := by
    intro c d hc hd hlt hcd
    obtain ⟨p, hp, hpd⟩ := (star_edge_iff colbeg colend rowind nr nc hlt).1 hcd
    have hr := hrows c hc p hp
    refine ⟨getN rowind p, hr, hasEntry_iff.2 ⟨p, hp, rfl⟩, ?_⟩
    have := hfc.2 _ hr (by rw [hpd]; exact hd)
    rwa [hpd] at this
  rw [ataAdj_iff]
  rcases Nat.lt_trichotomy a b with hlt | heq | hgt
  · rw [liuGraph_symm] at h
    obtain ⟨r, h1, h2, h3⟩ := key b a hb ha hlt h
    exact ⟨by omega, r, h1, h3, h2⟩
  · -- no self loops: either disjunct of `liuGraph` asks for `a < a`
    subst heq
    unfold liuGraph at h
    simp at h
  · obtain ⟨r, h1, h2, h3⟩ := key a b ha hb hgt h
    exact ⟨by omega, r, h1, h2, h3⟩

theorem ata_sub_fill_star {a b : Nat} (ha : a < nc) (hb : b < nc)
    (h : ataAdj colbeg colend rowind nr a b = true) :
    fill (liuGraph (starRows colbeg colend rowind nr nc)) nc a b = true := by
  have hfc := firstCol_spec colbeg colend rowind nr nc
  obtain ⟨hne, r, hr, hea, heb⟩ := ataAdj_iff.1 h
  have hfa := hfc.1 r a hr ha hea
  have hfb := hfc.1 r b hr hb heb
  -- an entry (r, c) with first column f < c gives the star edge (c, f)
  have hedge : ∀ c, hasEntry colbeg colend rowind r c = true →
      getN (firstCol colbeg colend rowind nr nc) r < c →
      liuGraph (starRows colbeg colend rowind nr nc) c (getN (firstCol colbeg colend rowind nr nc) r) = true := by
    intro c hec hlt
    obtain ⟨p, hp, hpr⟩ := hasEntry_iff.1 hec
    exact (star_edge_iff colbeg colend rowind nr nc hlt).2 ⟨p, hp, by rw [hpr]⟩
  generalize hf : getN (firstCol colbeg colend rowind nr nc) r = f at hfa hfb hedge
  -- `f` is `a` or `b`: the star edge is the edge wanted; otherwise eliminating `f` joins its neighbours `a`, `b`
  by_cases hfa' : f = a
  · subst hfa'
    have := hedge b heb (by omega)
    rw [liuGraph_symm] at this
    exact fill_mono (Nat.zero_le _) this
  · by_cases hfb' : f = b
    · subst hfb'
      exact fill_mono (Nat.zero_le _) (hedge a hea (by omega))
    · have e1 : fill (liuGraph (starRows colbeg colend rowind nr nc)) f a f = true :=
        fill_mono (Nat.zero_le _) (hedge a hea (by omega))
      have e2 : fill (liuGraph (starRows colbeg colend rowind nr nc)) f f b = true := by
        have := hedge b heb (by omega)
        rw [liuGraph_symm] at this
        exact fill_mono (Nat.zero_le _) this
      exact fill_mono (by omega) ((fill_succ_iff _ f a b).2 (Or.inr ⟨by omega, by omega, hne, e1, e2⟩))

/-- first-column stars: a star at each row's first column in place of the row's clique of `AᵀA` fills alike -/
theorem fill_star_eq_ata (hrows : ∀ c, c < nc → ∀ p, p ∈ colRange colbeg colend c → getN rowind p < nr)
    {a b : Nat} (ha : a < nc) (hb : b < nc) :
    fill (liuGraph (starRows colbeg colend rowind nr nc)) nc a b = fill (ataAdj colbeg colend rowind nr) nc a b := by
  rw [Bool.eq_iff_iff]
  constructor
  · exact fill_closure (fun a b ha hb h =>
      fill_mono (Nat.zero_le _) (star_sub_ata colbeg colend rowind nr nc hrows ha hb h)) nc a b ha hb
  · exact fill_closure (fun a b ha hb h => ata_sub_fill_star colbeg colend rowind nr nc ha hb h) nc a b ha hb

/-- `hrows` is needed: a row index `≥ nr` reads `firstcol` as 0 and makes a star edge `ataAdj` does not see -/
theorem colEtree_eq_ref (hrows : ∀ c, c < nc → ∀ p, p ∈ colRange colbeg colend c → getN rowind p < nr) :
    colEtree colbeg colend rowind nr nc = etreeRef nc (ataAdj colbeg colend rowind nr) := by
  apply eq_etreeRef_of_isEtree (colEtree_increasing colbeg colend rowind nr nc).1
  rw [colEtree_eq_liuRun, liuRun_eq_ref]
  exact isEtree_congr (fun a b ha hb => fill_star_eq_ata colbeg colend rowind nr nc hrows ha hb)
    (etreeRef_isEtree nc _)

end star

theorem colEtreeRef_eq (colbeg colend rowind : Array Nat) (nr nc : Nat) :
    colEtreeRef colbeg colend rowind nr nc = etreeRef nc (ataAdj colbeg colend rowind nr) := by
  unfold colEtreeRef
  apply etreeRef_congr
  intro a b ha hb
  rw [tabGet_tabulate nc _ ha hb]
  unfold ataAdj
  congr 1
  rw [Bool.eq_iff_iff]
  simp only [List.any_eq_true, List.mem_range]
  exact exists_congr fun r => and_congr_right fun hr => by rw [tabGet_ofFn _ hr ha, tabGet_ofFn _ hr hb]

end Slu.Pre
