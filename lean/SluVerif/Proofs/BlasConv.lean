/- ?CompRow_to_CompCol (pdutil.c:83-121) as a counting sort.  `cum c` (entries in the columns before `c`) is where
   column `c` starts in the output; after `p` positions of the sweep `marker[c] = cum c + cnt c p` (`cnt c p`: the
   entries of column `c` among them), so every entry gets a fresh slot of its own column. -/
import SluVerif.Proofs.BlasGemv
namespace Slu.Blas
open Finset
variable {α : Type}

theorem rdN_wr (a : Array Nat) (i k v : Nat) :
    rdN (wr a i v) k = if k = i ∧ i < a.size then v else rdN a k := rd_wr a i k v

section Defs
variable [CommRing α]

/-- dense entry (i,j) denoted by a row-compressed store -/
def denseNR (a : Array α) (colind rowptr : Array Nat) (i j : Nat) : α :=
  ∑ k ∈ range (rdN rowptr (i + 1) - rdN rowptr i),
    if rdN colind (rdN rowptr i + k) = j then rd a (rdN rowptr i + k) else 0

end Defs

/-- what the C routine needs to stay inside its arrays -/
structure NRwf (m n nnz : Nat) (colind rowptr : Array Nat) : Prop where
  ptr0 : rdN rowptr 0 = 0
  mono : ∀ i < m, rdN rowptr i ≤ rdN rowptr (i + 1)
  last : rdN rowptr m = nnz
  cols : ∀ k < nnz, rdN colind k < n

theorem NRwf.mono_le {m n nnz : Nat} {colind rowptr : Array Nat} (h : NRwf m n nnz colind rowptr)
    (a b : Nat) (hab : a ≤ b) (hb : b ≤ m) : rdN rowptr a ≤ rdN rowptr b := by
  induction hab with
  | refl => exact Nat.le_refl _
  | step hab ih => exact Nat.le_trans (ih (by omega)) (h.mono _ (by omega))

theorem NRwf.pos_lt {m n nnz : Nat} {colind rowptr : Array Nat} (h : NRwf m n nnz colind rowptr)
    {i p : Nat} (hi : i < m) (hp : p < rdN rowptr (i + 1)) : p < nnz := by
  have := h.mono_le (i + 1) m (by omega) (Nat.le_refl _)
  rw [h.last] at this; omega

theorem NRwf.row_unique {m n nnz : Nat} {colind rowptr : Array Nat} (h : NRwf m n nnz colind rowptr)
    (i i0 p : Nat) (hi : i < m) (hi0 : i0 < m) (h1 : rdN rowptr i0 ≤ p) (h2 : p < rdN rowptr (i0 + 1)) :
    (i0 = i) ↔ (rdN rowptr i ≤ p ∧ p < rdN rowptr (i + 1)) := by
  constructor
  · intro e
    subst e
    exact ⟨h1, h2⟩
  · rintro ⟨h3, h4⟩
    by_contra hne
    rcases Nat.lt_or_gt_of_ne hne with hlt | hgt
    · have := h.mono_le (i0 + 1) i (by omega) (by omega); omega
    · have := h.mono_le (i + 1) i0 (by omega) (by omega); omega

def cnt (colind : Array Nat) (c p : Nat) : Nat := ∑ q ∈ range p, if rdN colind q = c then 1 else 0

def cum (colind : Array Nat) (nnz c : Nat) : Nat := ∑ c' ∈ range c, cnt colind c' nnz

theorem cnt_zero (colind : Array Nat) (c : Nat) : cnt colind c 0 = 0 := by simp [cnt]

theorem cnt_succ (colind : Array Nat) (c p : Nat) :
    cnt colind c (p + 1) = cnt colind c p + if rdN colind p = c then 1 else 0 := by
  unfold cnt; rw [sum_range_succ]

theorem cnt_mono (colind : Array Nat) (c : Nat) {p p' : Nat} (h : p ≤ p') : cnt colind c p ≤ cnt colind c p' := by
  induction h with
  | refl => exact Nat.le_refl _
  | step _ ih => rw [cnt_succ]; omega

theorem cum_zero (colind : Array Nat) (nnz : Nat) : cum colind nnz 0 = 0 := by simp [cum]

theorem cum_succ (colind : Array Nat) (nnz c : Nat) :
    cum colind nnz (c + 1) = cum colind nnz c + cnt colind c nnz := by
  simp [cum, sum_range_succ]

theorem cum_mono (colind : Array Nat) (nnz : Nat) {c c' : Nat} (h : c ≤ c') :
    cum colind nnz c ≤ cum colind nnz c' := by
  induction h with
  | refl => exact Nat.le_refl _
  | step _ ih => rw [cum_succ]; omega

theorem cum_total (colind : Array Nat) (n nnz : Nat) (hc : ∀ k < nnz, rdN colind k < n) :
    cum colind nnz n = nnz := by
  unfold cum cnt
  rw [sum_comm]
  have : ∀ q ∈ range nnz, (∑ c ∈ range n, if rdN colind q = c then 1 else 0) = 1 := by
    intro q hq
    simp [hc q (mem_range.mp hq)]
  rw [sum_congr rfl this]
  simp

theorem countCols_spec (m n nnz : Nat) (colind rowptr : Array Nat) (h : NRwf m n nnz colind rowptr) :
    (countCols m n colind rowptr).size = n ∧
    ∀ c < n, rdN (countCols m n colind rowptr) c = cnt colind c nnz := by
  have key := foldl_nested_inv (rdN rowptr) m h.mono
    (fun p (mk : Array Nat) => mk.size = n ∧ ∀ c < n, rdN mk c = cnt colind c p)
    (fun mk _ p => wr mk (rdN colind p) (rdN mk (rdN colind p) + 1))
    (Array.replicate n 0)
    (by
      rw [h.ptr0]
      refine ⟨by simp, fun c _ => ?_⟩
      rw [rdN_eq_rd, rd_replicate, cnt_zero])
    (by
      intro i hi p h1 h2 mk ⟨hsz, hv⟩
      have hc0 := h.cols p (h.pos_lt hi h2)
      refine ⟨by simp [hsz], fun c hc => ?_⟩
      rw [rdN_wr, cnt_succ, hsz]
      by_cases e : c = rdN colind p
      · subst e
        rw [if_pos ⟨rfl, hc0⟩, if_pos rfl, hv _ hc0]
      · rw [if_neg fun x => e x.1, if_neg fun x => e x.symm, Nat.add_zero, hv c hc])
  rw [h.last] at key
  exact key

theorem setupPtrs_spec (n : Nat) (marker : Array Nat) (f : Nat → Nat) (hsz : marker.size = n)
    (hm : ∀ c < n, rdN marker c = f c) :
    (setupPtrs n marker).1.size = n + 1 ∧ (setupPtrs n marker).2.size = n ∧
    (∀ c ≤ n, rdN (setupPtrs n marker).1 c = ∑ c' ∈ range c, f c') ∧
    (∀ c < n, rdN (setupPtrs n marker).2 c = ∑ c' ∈ range c, f c') := by
  obtain ⟨s1, s2, a1, a2, -⟩ := foldl_range_inv
    (fun (st : Array Nat × Array Nat) j =>
      (wr st.1 (j + 1) (rdN st.1 j + rdN st.2 j), wr st.2 j (rdN st.1 j)))
    (fun j (st : Array Nat × Array Nat) => st.1.size = n + 1 ∧ st.2.size = n ∧
      (∀ c ≤ j, rdN st.1 c = ∑ c' ∈ range c, f c') ∧
      (∀ c < j, rdN st.2 c = ∑ c' ∈ range c, f c') ∧
      (∀ c, j ≤ c → c < n → rdN st.2 c = f c))
    (Array.replicate (n + 1) 0, marker) n
    (by
      refine ⟨by simp, hsz, ?_, ?_, ?_⟩
      · intro c hc
        obtain rfl : c = 0 := by omega
        exact (rd_replicate (n + 1) 0).trans (sum_range_zero _).symm
      · omega
      · intro c _ hc; exact hm c hc)
    (by
      intro j st hj ⟨s1, s2, a1, a2, a3⟩
      refine ⟨by simp [s1], by simp [s2], ?_, ?_, ?_⟩
      · intro c hc
        rw [rdN_wr, s1]
        by_cases e : c = j + 1
        · subst e
          simp only [true_and, Nat.add_lt_add_iff_right, hj, if_true]
          rw [a1 j (Nat.le_refl _), a3 j (Nat.le_refl _) hj, sum_range_succ]
        · simp only [e, false_and, if_false]
          exact a1 c (by omega)
      · intro c hc
        rw [rdN_wr, s2]
        by_cases e : c = j
        · subst e
          simp only [true_and, hj, if_true]
          exact a1 c (Nat.le_refl _)
        · simp only [e, false_and, if_false]
          exact a2 c (by omega)
      · intro c hc hcn
        rw [rdN_wr]
        have e : ¬ (c = j) := by omega
        simp only [e, false_and, if_false]
        exact a3 c (by omega) hcn)
  exact ⟨s1, s2, a1, a2⟩

section Xfer
variable [CommRing α]

structure XInv (m n nnz : Nat) (a : Array α) (colind rowptr : Array Nat) (p : Nat) (st : XferSt α) : Prop where
  szm : st.marker.size = n
  szr : st.rowind.size = nnz
  sza : st.at_.size = nnz
  mks : ∀ c < n, rdN st.marker c = cum colind nnz c + cnt colind c p
  rows : ∀ k < nnz, rdN st.rowind k < m
  /-- output column `c` restricted to row `i` = the input entries of column `c`, row `i` at positions `< p` -/
  sums : ∀ c < n, ∀ i < m,
    (∑ t ∈ range (cnt colind c p),
        if rdN st.rowind (cum colind nnz c + t) = i then rd st.at_ (cum colind nnz c + t) else 0)
      = ∑ q ∈ range p, if rdN colind q = c ∧ rdN rowptr i ≤ q ∧ q < rdN rowptr (i + 1) then rd a q else 0

theorem XInv.step (m n nnz : Nat) (a : Array α) (colind rowptr : Array Nat)
    (h : NRwf m n nnz colind rowptr) (i0 : Nat) (hi0 : i0 < m) (p : Nat)
    (h1 : rdN rowptr i0 ≤ p) (h2 : p < rdN rowptr (i0 + 1)) (st : XferSt α)
    (inv : XInv m n nnz a colind rowptr p st) :
    XInv m n nnz a colind rowptr (p + 1)
      { marker := wr st.marker (rdN colind p) (rdN st.marker (rdN colind p) + 1),
        rowind := wr st.rowind (rdN st.marker (rdN colind p)) i0,
        at_ := wr st.at_ (rdN st.marker (rdN colind p)) (rd a p) } := by
  have hp : p < nnz := h.pos_lt hi0 h2
  have hc0 := h.cols p hp
  have hslot := inv.mks _ hc0
  -- the slot lies inside column c0's extent
  have hcnt : cnt colind (rdN colind p) p + 1 ≤ cnt colind (rdN colind p) nnz := by
    have := cnt_mono colind (rdN colind p) (Nat.succ_le_of_lt hp)
    rw [cnt_succ] at this; simpa using this
  have hcs := cum_succ colind nnz (rdN colind p)
  have hcn : cum colind nnz (rdN colind p + 1) ≤ nnz := by
    have := cum_mono colind nnz (show rdN colind p + 1 ≤ n from hc0)
    rwa [cum_total colind n nnz h.cols] at this
  have hlt : rdN st.marker (rdN colind p) < nnz := by omega
  -- other columns' filled slots are different from the slot
  have hdisj : ∀ c < n, c ≠ rdN colind p → ∀ t < cnt colind c p,
      cum colind nnz c + t ≠ rdN st.marker (rdN colind p) := by
    intro c hc hne t ht
    have ht' : t < cnt colind c nnz := Nat.lt_of_lt_of_le ht (cnt_mono colind c (Nat.le_of_lt hp))
    have hcs' := cum_succ colind nnz c
    rcases Nat.lt_or_gt_of_ne hne with hl | hg
    · have := cum_mono colind nnz (show c + 1 ≤ rdN colind p from hl); omega
    · have := cum_mono colind nnz (show rdN colind p + 1 ≤ c from hg); omega
  refine ⟨by simp [inv.szm], by simp [inv.szr], by simp [inv.sza], ?_, ?_, ?_⟩
  · intro c hc
    rw [rdN_wr, cnt_succ, inv.szm]
    by_cases e : c = rdN colind p
    · subst e
      simp only [true_and, hc0, if_true, hslot]; omega
    · have e' : ¬ (rdN colind p = c) := fun x => e x.symm
      simp only [e, e', false_and, if_false, inv.mks c hc, Nat.add_zero]
  · intro k hk
    rw [rdN_wr]
    by_cases e : k = rdN st.marker (rdN colind p) ∧ rdN st.marker (rdN colind p) < st.rowind.size
    · simp only [e, and_self, if_true]; exact hi0
    · simp only [e, if_false]; exact inv.rows k hk
  · intro c hc i hi
    show (∑ t ∈ range (cnt colind c (p + 1)),
        if rdN (wr st.rowind (rdN st.marker (rdN colind p)) i0) (cum colind nnz c + t) = i
        then rd (wr st.at_ (rdN st.marker (rdN colind p)) (rd a p)) (cum colind nnz c + t) else 0) = _
    rw [sum_range_succ (n := p), ← inv.sums c hc i hi, cnt_succ]
    by_cases e : c = rdN colind p
    · subst e
      simp only [if_true, true_and]
      rw [sum_range_succ, ← hslot]
      refine congrArg₂ (· + ·) ?_ ?_
      · apply sum_congr rfl
        intro t ht
        have hne : cum colind nnz (rdN colind p) + t ≠ rdN st.marker (rdN colind p) := by
          have := mem_range.mp ht; omega
        rw [rdN_wr, rd_wr]
        simp only [hne, false_and, if_false]
      · rw [rdN_wr, rd_wr, inv.szr, inv.sza]
        simp only [hlt, and_self, if_true]
        have := h.row_unique i i0 p hi hi0 h1 h2
        by_cases e2 : i0 = i
        · simp only [e2, this.mp e2, and_self]
        · have : ¬ (rdN rowptr i ≤ p ∧ p < rdN rowptr (i + 1)) := fun x => e2 (this.mpr x)
          simp only [e2, this]
    · have e' : ¬ (rdN colind p = c) := fun x => e x.symm
      simp only [e', false_and, if_false, add_zero]
      apply sum_congr rfl
      intro t ht
      have hne := hdisj c hc e t (mem_range.mp ht)
      rw [rdN_wr, rd_wr]
      simp only [hne, false_and, if_false]

theorem transfer_spec (m n nnz : Nat) (a : Array α) (colind rowptr : Array Nat) (marker : Array Nat)
    (h : NRwf m n nnz colind rowptr) (hsz : marker.size = n)
    (hmk : ∀ c < n, rdN marker c = cum colind nnz c) :
    XInv m n nnz a colind rowptr nnz (transfer m nnz a colind rowptr marker) := by
  have key := foldl_nested_inv (rdN rowptr) m h.mono
    (fun p (st : XferSt α) => XInv m n nnz a colind rowptr p st)
    (fun st i p =>
      { marker := wr st.marker (rdN colind p) (rdN st.marker (rdN colind p) + 1),
        rowind := wr st.rowind (rdN st.marker (rdN colind p)) i,
        at_ := wr st.at_ (rdN st.marker (rdN colind p)) (rd a p) })
    { marker := marker, rowind := Array.replicate nnz 0, at_ := Array.replicate nnz 0 }
    (by
      rw [h.ptr0]
      refine ⟨hsz, by simp, by simp, ?_, ?_, ?_⟩
      · intro c hc
        rw [cnt_zero]
        exact hmk c hc
      · intro k hk
        rw [rdN_eq_rd, rd_replicate]
        rcases Nat.eq_zero_or_pos m with e | e
        · have h0 := h.ptr0
          have hl := h.last
          rw [e] at hl
          omega
        · exact e
      · intro c hc i hi
        simp [cnt_zero])
    (fun i hi p h1 h2 st inv => XInv.step m n nnz a colind rowptr h i hi p h1 h2 st inv)
  rw [h.last] at key
  exact key

end Xfer


example : compRowToCompCol 2 3 3 (#[1, 2, 3] : Array Int) #[0, 2, 1] #[0, 2, 3]
    = { at_ := #[1, 3, 2], rowind := #[0, 1, 0], colptr := #[0, 1, 2, 3] } := by decide

example : NRwf 2 3 3 #[0, 2, 1] #[0, 2, 3] := ⟨by decide, by decide, by decide, by decide⟩

end Slu.Blas
