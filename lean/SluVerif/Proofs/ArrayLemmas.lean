/- Reads of arrays with a default after `push` / `setIfInBounds` / `replicate` / `map`; Boolean sweeps and guards as the
   executable checks write them.  Model-free, core only. -/
namespace Slu

theorem getD_push {α} (a : Array α) (x d : α) (i : Nat) :
    (a.push x).getD i d = if i = a.size then x else a.getD i d := by
  simp only [Array.getD_eq_getD_getElem?, Array.getElem?_push, apply_ite (Option.getD · d), Option.getD_some]

theorem getD_setIfInBounds {α} (a : Array α) (i j : Nat) (v d : α) :
    (a.setIfInBounds i v).getD j d = if j = i ∧ i < a.size then v else a.getD j d := by
  rw [Array.getD_eq_getD_getElem?, Array.getD_eq_getD_getElem?, Array.getElem?_setIfInBounds]
  by_cases h : i = j
  · subst h
    by_cases h2 : i < a.size <;> simp [h2]
  · simp [h, Ne.symm h]

theorem getD_setIfInBounds_ne {α} (a : Array α) {i j : Nat} (v d : α) (h : j ≠ i) :
    (a.setIfInBounds i v).getD j d = a.getD j d := by
  rw [getD_setIfInBounds, if_neg fun hh => h hh.1]

theorem getD_setIfInBounds_self {α} (a : Array α) {i : Nat} (v d : α) (h : i < a.size) :
    (a.setIfInBounds i v).getD i d = v := by
  rw [getD_setIfInBounds, if_pos ⟨rfl, h⟩]

theorem getD_setIfInBounds_of_lt {α} (a : Array α) (i j : Nat) (v d : α) (hi : i < a.size) :
    (a.setIfInBounds i v).getD j d = if j = i then v else a.getD j d := by
  simp only [getD_setIfInBounds, hi, and_true]

theorem getD_replicate {α} (n i : Nat) (v d : α) : (Array.replicate n v).getD i d = if i < n then v else d := by
  rw [Array.getD_eq_getD_getElem?, Array.getElem?_replicate]
  split <;> rfl

theorem getD_map_toArray {α β} {l : List α} {f : α → β} {i : Nat} {d : α} {e : β} (h : i < l.length) :
    ((l.map f).toArray).getD i e = f (l.getD i d) := by
  simp [Array.getD, List.getD, h]

theorem list_getD_mem {α} {l : List α} {i : Nat} {d : α} (h : i < l.length) : l.getD i d ∈ l := by
  simp [h]

theorem all_range_iff (n : Nat) (p : Nat → Bool) :
    (List.range n).all p = true ↔ ∀ i, i < n → p i = true := by
  simp only [List.all_eq_true, List.mem_range]

theorem guard_iff (c q : Prop) [Decidable c] [Decidable q] :
    (if c then decide q else true) = true ↔ (c → q) := by
  by_cases h : c <;> simp [h]

/-- the `!lsame … && !lsame …` guard of `sp_?gemv`'s argument check (Props/C19), as a proposition -/
theorem not_and_not_eq_true (a b : Bool) : (!a && !b) = true ↔ ¬ (a = true ∨ b = true) := by
  cases a <;> cases b <;> decide

theorem not_and_not_and_not_eq_true (a b c : Bool) :
    (!a && !b && !c) = true ↔ ¬ (a = true ∨ b = true ∨ c = true) := by
  cases a <;> cases b <;> cases c <;> decide

end Slu
