/- Character classes, digit strings and field widths; the front end shared by `atoi`, `scanf("%d")` and `strtod`
(white space, sign, digits); the scanning loops of the descriptor parsers.
`2147483648` is 2^31 throughout: `int_t` is `int`, whose range is `inInt32`. -/
import SluVerif.Model.ReadWrite
namespace Slu.Read

theorem digit_facts : ∀ d, d < 10 → isDig (digitChar d) = true ∧ digVal (digitChar d) = d := by decide

theorem isDig_digitChar {d : Nat} (h : d < 10) : isDig (digitChar d) = true := (digit_facts d h).1
theorem digVal_digitChar {d : Nat} (h : d < 10) : digVal (digitChar d) = d := (digit_facts d h).2

/-- A property of digits is checked on the ten of them, by evaluation: so every `isDig_not_*` below. -/
theorem isDig_elim (P : Char → Prop) (hP : ∀ d, d < 10 → P (digitChar d)) {c : Char} (h : isDig c = true) :
    P c := by
  simp only [isDig, Bool.and_eq_true, decide_eq_true_eq, Char.le_def, UInt32.le_iff_toNat_le] at h
  have hc : c.toNat = c.val.toNat := rfl
  have h0 : ('0' : Char).val.toNat = 48 := rfl
  have h9 : ('9' : Char).val.toNat = 57 := rfl
  have e : digitChar (c.toNat - 48) = c := by
    rw [digitChar, show 48 + (c.toNat - 48) = c.toNat by omega, Char.ofNat_toNat]
  exact e ▸ hP (c.toNat - 48) (by omega)

theorem not_isDig_of {p : Char → Bool} (hp : ∀ {c}, isDig c = true → p c = false) {c : Char} (h : p c = true) :
    isDig c = false := by
  cases hd : isDig c with
  | false => rfl
  | true =>
    rw [hp hd] at h
    cases h

theorem isDig_not_space {c : Char} (h : isDig c = true) : isSpace c = false :=
  isDig_elim (isSpace · = false) (by decide +kernel) h

theorem isDig_not_sign {c : Char} (h : isDig c = true) : c ≠ '-' ∧ c ≠ '+' :=
  isDig_elim (fun c => c ≠ '-' ∧ c ≠ '+') (by decide) h

def AllDig (s : Str) : Prop := ∀ c ∈ s, isDig c = true

/-- what must follow a digit string for `spanDigits` to stop. -/
def NoDigHead : Str → Prop
  | [] => True
  | c :: _ => isDig c = false

/- The `Decidable` instances let the `WF` facts of the witnesses be closed by `decide`. -/
instance (s : Str) : Decidable (AllDig s) := by unfold AllDig; infer_instance

theorem AllDig.nil : AllDig [] := by
  intro c h
  cases h
theorem AllDig.cons {c : Char} {s : Str} (hc : isDig c = true) (hs : AllDig s) : AllDig (c :: s) :=
  List.forall_mem_cons.mpr ⟨hc, hs⟩
theorem AllDig.append {a b : Str} (ha : AllDig a) (hb : AllDig b) : AllDig (a ++ b) :=
  List.forall_mem_append.mpr ⟨ha, hb⟩
theorem AllDig.head {c : Char} {s : Str} (h : AllDig (c :: s)) : isDig c = true := (List.forall_mem_cons.mp h).1
theorem AllDig.tail {c : Char} {s : Str} (h : AllDig (c :: s)) : AllDig s := (List.forall_mem_cons.mp h).2

def WsAll (s : Str) : Prop := ∀ c ∈ s, isSpace c = true
instance (s : Str) : Decidable (WsAll s) := by unfold WsAll; infer_instance

/-- what follows a `?readmt` token: `scanf` stops, `strtod` finds no exponent letter. -/
def WsHead : Str → Prop
  | [] => True
  | c :: _ => isSpace c = true

theorem wsAll_blanks (k : Nat) : WsAll (blanks k) := List.forall_mem_replicate.mpr (Or.inr rfl)

theorem noDigHead_cons {c : Char} {s : Str} (h : isDig c = false) : NoDigHead (c :: s) := h

theorem WsHead.noDig {s : Str} (h : WsHead s) : NoDigHead s := by
  cases s with
  | nil => trivial
  | cons c cs => exact not_isDig_of isDig_not_space h

theorem wsHead_append {ws s : Str} (h : WsAll ws ∧ ws ≠ []) : WsHead (ws ++ s) := by
  cases ws with
  | nil => exact absurd rfl h.2
  | cons c cs => exact h.1 c (by simp)

theorem skipSpace_ws {ws : Str} (h : WsAll ws) (s : Str) : skipSpace (ws ++ s) = skipSpace s := by
  induction ws with
  | nil => rfl
  | cons c cs ih =>
    rw [List.cons_append, skipSpace, if_pos (h c (by simp))]
    exact ih (fun x hx => h x (by simp [hx]))

theorem skipSpace_blanks (k : Nat) (s : Str) : skipSpace (blanks k ++ s) = skipSpace s :=
  skipSpace_ws (wsAll_blanks k) s

theorem skipSpace_of_not_space {c : Char} {s : Str} (h : isSpace c = false) : skipSpace (c :: s) = c :: s := by
  simp [skipSpace, h]

theorem skipSpace_idem (t : Str) : skipSpace (skipSpace t) = skipSpace t := by
  induction t with
  | nil => rfl
  | cons c cs ih => cases h : isSpace c <;> simp [skipSpace, h, ih]

theorem spanDigits_append {ds rest : Str} (hd : AllDig ds) (hr : NoDigHead rest) :
    spanDigits (ds ++ rest) = (ds, rest) := by
  induction ds with
  | nil =>
    cases rest with
    | nil => rfl
    | cons c cs =>
      simp only [NoDigHead] at hr
      simp [spanDigits, hr]
  | cons c cs ih =>
    have := ih hd.tail
    simp [spanDigits, hd.head, this]

theorem valOf_foldl (acc : Nat) (ds : Str) :
    ds.foldl (fun a c => a * 10 + digVal c) acc = acc * 10 ^ ds.length + valOf ds := by
  induction ds generalizing acc with
  | nil => simp [valOf]
  | cons c cs ih =>
    simp only [List.foldl_cons, List.length_cons, valOf]
    rw [ih, ih (0 * 10 + digVal c), Nat.pow_succ]
    simp [Nat.add_mul, Nat.mul_assoc, Nat.mul_comm 10, Nat.add_assoc]

theorem valOf_append (a b : Str) : valOf (a ++ b) = valOf a * 10 ^ b.length + valOf b := by
  simp only [valOf, List.foldl_append]
  rw [valOf_foldl]
  rfl

theorem natDigits_allDig (k : Nat) : AllDig (natDigits k) := by
  induction k using Nat.strongRecOn with
  | _ k ih =>
    rw [natDigits]
    split
    · exact AllDig.cons (isDig_digitChar (by omega)) AllDig.nil
    · exact AllDig.append (ih (k / 10) (by omega)) (AllDig.cons (isDig_digitChar (by omega)) AllDig.nil)

theorem valOf_natDigits (k : Nat) : valOf (natDigits k) = k := by
  induction k using Nat.strongRecOn with
  | _ k ih =>
    rw [natDigits]
    split
    next h => simp [valOf, digVal_digitChar h]
    next =>
      rw [valOf_append, ih (k / 10) (by omega)]
      simp only [valOf, List.foldl, List.length_singleton, digVal_digitChar (Nat.mod_lt k (by decide))]
      omega

theorem natDigits_ne_nil (k : Nat) : natDigits k ≠ [] := by
  rw [natDigits]; split <;> simp

theorem natDigits_length_pos (k : Nat) : 0 < (natDigits k).length :=
  List.length_pos_iff.mpr (natDigits_ne_nil k)

theorem natDigits_length_le {n k : Nat} (hk : k < 10 ^ (n + 1)) : (natDigits k).length ≤ n + 1 := by
  induction n generalizing k with
  | zero =>
    rw [natDigits, if_pos (by simpa using hk)]
    simp
  | succ n ih =>
    rw [natDigits]
    split
    · simp
    · have := ih (k := k / 10) (Nat.div_lt_of_lt_mul (by rwa [Nat.pow_succ, Nat.mul_comm] at hk))
      simp
      omega

theorem natDigits_int32 {k : Nat} (h : k < 2147483648) : (natDigits k).length ≤ 10 :=
  natDigits_length_le (n := 9) (by omega)

theorem takeSign_minus (s : Str) : takeSign ('-' :: s) = (true, s) := rfl
theorem takeSign_plus (s : Str) : takeSign ('+' :: s) = (false, s) := rfl

theorem takeSign_signStr (n p : Bool) {c : Char} {s : Str} (hc : c ≠ '-' ∧ c ≠ '+') :
    takeSign (signStr n p ++ c :: s) = (n, c :: s) := by
  cases n
  · cases p
    · show takeSign (c :: s) = _
      unfold takeSign
      split
      next heq =>
        injection heq with a b
        exact absurd a hc.1
      next heq =>
        injection heq with a b
        exact absurd a hc.2
      next => rfl
    · rfl
  · rfl

theorem takeSign_of_dig {c : Char} {s : Str} (h : isDig c = true) : takeSign (c :: s) = (false, c :: s) :=
  takeSign_signStr false false (isDig_not_sign h)

/-- What `atoi`, `scanf("%d")` and `strtod` begin with: white space, an optional sign, up to the first character `c`
of the number (a digit, or the point). -/
theorem takeSign_skipSpace {ws : Str} (hws : WsAll ws) (n p : Bool) {c : Char} {s : Str}
    (hc : isDig c = true ∨ c = '.') :
    takeSign (skipSpace (ws ++ (signStr n p ++ c :: s))) = (n, c :: s) := by
  obtain ⟨hsp, hsg⟩ : isSpace c = false ∧ c ≠ '-' ∧ c ≠ '+' := by
    rcases hc with hc | rfl
    · exact ⟨isDig_not_space hc, isDig_not_sign hc⟩
    · decide
  have hss : skipSpace (signStr n p ++ c :: s) = signStr n p ++ c :: s := by
    cases n
    · cases p
      · exact skipSpace_of_not_space hsp
      · rfl
    · rfl
  rw [skipSpace_ws hws, hss, takeSign_signStr n p hsg]

theorem scanInt_text {ws ds rest : Str} (n p : Bool) (hws : WsAll ws) (hd : AllDig ds) (hne : ds ≠ [])
    (hr : NoDigHead rest) (hv : inInt32 (applySign n (valOf ds)) = true) :
    scanInt (ws ++ (signStr n p ++ (ds ++ rest))) = some (applySign n (valOf ds), rest) := by
  obtain ⟨c, cs, rfl⟩ := List.exists_cons_of_ne_nil hne
  unfold scanInt
  rw [List.cons_append, takeSign_skipSpace hws n p (Or.inl hd.head)]
  simp only
  rw [← List.cons_append, spanDigits_append hd hr]
  simp [hv]

theorem atoiC_of_scanInt {s r : Str} {v : Int} (h : scanInt s = some (v, r)) : atoiC s = some v := by
  simp only [scanInt] at h
  split at h
  · cases h
  · split at h
    next hv =>
      cases h
      simp [atoiC, atoiZ, hv]
    next => cases h

theorem inInt32_ofNat {k : Nat} (h : k < 2147483648) : inInt32 (k : Int) = true := by
  simp [inInt32]
  omega

theorem scanInt_digits {ws rest : Str} {k : Nat} (hws : WsAll ws) (hk : k < 2147483648) (hr : NoDigHead rest) :
    scanInt (ws ++ (natDigits k ++ rest)) = some ((k : Int), rest) := by
  have := scanInt_text false false hws (natDigits_allDig k) (natDigits_ne_nil k) hr
    (by rw [valOf_natDigits]; exact inInt32_ofNat hk)
  rwa [valOf_natDigits] at this

theorem atoiC_ws_natDigits {ws : Str} (hws : WsAll ws) {k : Nat} (hk : k < 2147483648) {rest : Str}
    (hr : NoDigHead rest) : atoiC (ws ++ (natDigits k ++ rest)) = some (k : Int) :=
  atoiC_of_scanInt (scanInt_digits hws hk hr)

theorem atoiC_natDigits {k : Nat} (hk : k < 2147483648) {rest : Str} (hr : NoDigHead rest) :
    atoiC (natDigits k ++ rest) = some (k : Int) :=
  atoiC_ws_natDigits (ws := []) (fun _ h => nomatch h) hk hr

theorem padLeft_length {w : Nat} {s : Str} (h : s.length ≤ w) : (padLeft w s).length = w := by
  simp [padLeft, blanks]
  omega

theorem fmtInt_length {w k : Nat} (h : (natDigits k).length ≤ w) : (fmtInt w k).length = w :=
  padLeft_length h

theorem padRight_length {w : Nat} {s : Str} (h : s.length ≤ w) : (padRight w s).length = w := by
  simp [padRight, blanks]
  omega

theorem atoiC_fmtInt (w : Nat) {k : Nat} (hk : k < 2147483648) : atoiC (fmtInt w k) = some (k : Int) := by
  have := atoiC_ws_natDigits (wsAll_blanks (w - (natDigits k).length)) hk (rest := []) trivial
  rwa [List.append_nil] at this

theorem convIndex_fmtInt (w : Nat) {i : Nat} (hi : i + 1 < 2147483648) :
    convIndex (fmtInt w (i + 1)) = some (i : Int) := by
  simp only [convIndex, atoiC_fmtInt w hi]
  have e : ((i + 1 : Nat) : Int) - 1 = (i : Int) := by omega
  rw [e, inInt32_ofNat (by omega)]
  rfl

theorem dropThrough_append {p : Char → Bool} {a : Str} {c : Char} {t : Str}
    (ha : ∀ x ∈ a, p x = false) (hc : p c = true) : dropThrough p (a ++ c :: t) = some t := by
  induction a with
  | nil => simp [dropThrough, hc]
  | cons x xs ih => simpa [dropThrough, ha x (by simp)] using ih fun y hy => ha y (by simp [hy])

theorem dropUntil_append {p : Char → Bool} {a : Str} {c : Char} {t : Str}
    (ha : ∀ x ∈ a, p x = false) (hc : p c = true) : dropUntil p (a ++ c :: t) = some (c :: t) := by
  induction a with
  | nil => simp [dropUntil, hc]
  | cons x xs ih => simpa [dropUntil, ha x (by simp)] using ih fun y hy => ha y (by simp [hy])

theorem takeUntil_append {p : Char → Bool} {a : Str} {c : Char} {t : Str}
    (ha : ∀ x ∈ a, p x = false) (hc : p c = true) : takeUntil p (a ++ c :: t) = some a := by
  induction a with
  | nil => simp [takeUntil, hc]
  | cons x xs ih => simpa [takeUntil, ha x (by simp)] using ih fun y hy => ha y (by simp [hy])

/-- the form of a clause about an `Option` field in the `WF` predicates -/
instance Option.decidableForallEqSome {α : Type} (o : Option α) (P : α → Prop) [DecidablePred P] :
    Decidable (∀ a, o = some a → P a) :=
  match o with
  | none => isTrue fun _ h => nomatch h
  | some a => decidable_of_iff (P a) ⟨fun h _ hb => Option.some.inj hb ▸ h, fun h => h a rfl⟩

end Slu.Read
