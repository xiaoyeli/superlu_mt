/- for Props/C12: `?PivotGrowth` as a running minimum over candidate quotients, and the column / row sums of `?langs`
as those of the dense matrix -/
import SluVerif.Proofs.RfsBasic

namespace Slu
open Finset

/-- `maxuj == 0. ? 1. : maxaj / maxuj`, what `rpg` is `SUPERLU_MIN`-ed with for column `j = sn.f + k`
(SRC/dpivotgrowth.c) -/
def growthRatio (A : NCMat) (invPermC : Nat → Nat) (U : NCP) (sn : Snode) (k : Nat) : Rat :=
  if ucolMaxAbs U sn k = 0 then 1 else colMaxAbs A (invPermC (sn.f + k)) / ucolMaxAbs U sn k

theorem growthCol_eq (A : NCMat) (inv : Nat → Nat) (U : NCP) (sn : Snode) (r : Rat) (k : Nat) :
    growthCol A inv U sn r k = rmin r (growthRatio A inv U sn k) := by
  unfold growthCol growthRatio
  simp only
  split <;> rfl

/-- those quotients over the loop `for (j = fsupc; j < L_LAST_SUPC(k) && j < ncols; ++j)` of one supernode -/
def growthCands (ncols : Nat) (A : NCMat) (inv : Nat → Nat) (U : NCP) (sn : Snode) : List Rat :=
  ((List.range (sn.e - sn.f)).filter fun k => decide (sn.f + k < ncols)).map (growthRatio A inv U sn)

theorem growthSnode_eq (ncols : Nat) (A : NCMat) (inv : Nat → Nat) (U : NCP) (sn : Snode) (r : Rat) :
    growthSnode ncols A inv U sn r = Equil.fmin r (growthCands ncols A inv U sn) := by
  unfold growthSnode growthCands Equil.fmin
  simp only [growthCol_eq]
  rw [List.foldl_ite_left, rmin_eq_min, List.foldl_map]

theorem growthCands_skip (ncols : Nat) (A : NCMat) (inv : Nat → Nat) (U : NCP) (sn : Snode) (h : ncols ≤ sn.f) :
    growthCands ncols A inv U sn = [] := by
  unfold growthCands
  rw [List.map_eq_nil_iff, List.filter_eq_nil_iff]
  intro k _
  rw [decide_eq_true_eq]
  omega

theorem foldl_cands_flat (ncols : Nat) (A : NCMat) (inv : Nat → Nat) (U : NCP) (l : List Snode) (r : Rat) :
    l.foldl (fun r sn => growthSnode ncols A inv U sn r) r = Equil.fmin r (l.flatMap (growthCands ncols A inv U)) := by
  unfold Equil.fmin
  rw [List.foldl_flatMap]
  simp only [growthSnode_eq, Equil.fmin]

/-- supernodes listed in column order -/
def SupInOrder : List Snode → Prop
  | [] => True
  | sn :: rest => (∀ s ∈ rest, sn.e ≤ s.f) ∧ SupInOrder rest

theorem growthLoop_eq_foldl {ncols : Nat} {A : NCMat} {inv : Nat → Nat} {U : NCP} {l : List Snode} {r : Rat} :
    growthLoop ncols A inv U l r = l.foldl (fun r sn => growthSnode ncols A inv U sn r) r := by
  induction l generalizing r with
  | nil => rfl
  | cons s t ih =>
    simp only [growthLoop, List.foldl_cons]
    exact ih

theorem growthLoopOrig_eq_spec (ncols : Nat) (A : NCMat) (inv : Nat → Nat) (U : NCP) (l : List Snode) (r : Rat)
    (h : SupInOrder l) : growthLoopOrig ncols A inv U l r = l.foldl (fun r sn => growthSnode ncols A inv U sn r) r := by
  induction l generalizing r with
  | nil => rfl
  | cons s t ih =>
    simp only [growthLoopOrig, List.foldl_cons]
    split
    · -- early exit: every later supernode lies beyond column `ncols` and has no candidate
      rename_i hle
      rw [foldl_cands_flat, List.flatMap_eq_nil_iff.mpr fun s' hs' =>
        growthCands_skip ncols A inv U s' (le_trans hle (h.1 s' hs'))]
      rfl
    · exact ih _ h.2

/-- rows in range and no row index repeated inside a column -/
def NCMat.wf (A : NCMat) : Prop := A.rowsOk ∧ ∀ j, j < A.ncol → ((A.col j).map Prod.fst).Nodup

theorem filter_row_length (l : List (Nat × Rat)) (h : (l.map Prod.fst).Nodup) (i : Nat) :
    (l.filter fun e => e.1 = i).length ≤ 1 := by
  have := List.nodup_iff_count_le_one.mp h i
  rwa [List.count_eq_countP, List.countP_map, List.countP_eq_length_filter,
    show ((fun x => x == i) ∘ Prod.fst) = fun e : Nat × Rat => decide (e.1 = i) from
      funext fun e => beq_eq_decide _ _] at this

theorem abs_entry_eq (l : List (Nat × Rat)) (h : (l.map Prod.fst).Nodup) (i : Nat) :
    rabs ((l.filter fun e => e.1 = i).foldl (fun s e => s + e.2) 0) =
      ((l.filter fun e => e.1 = i).map fun e => rabs e.2).sum := by
  have hl := filter_row_length l h i
  generalize (l.filter fun e => e.1 = i) = fl at hl ⊢
  -- at most one entry in row `i`
  match fl, hl with
  | [], _ => simp [rabs]
  | [x], _ => simp
  | x :: y :: t, hl => simp at hl

theorem sum_rows_filter (m : Nat) (l : List (Nat × Rat)) (g : Nat × Rat → Rat) (h : ∀ e ∈ l, e.1 < m) :
    ∑ i ∈ range m, ((l.filter fun e => e.1 = i).map g).sum = (l.map g).sum := by
  induction l with
  | nil => simp
  | cons e t ih =>
    have he : e.1 < m := h e List.mem_cons_self
    have hstep : ∀ i ∈ range m, (((e :: t).filter fun e => e.1 = i).map g).sum
        = (if i = e.1 then g e else 0) + ((t.filter fun e => e.1 = i).map g).sum := by
      intro i _
      by_cases hi : e.1 = i
      · simp [hi]
      · have : ¬ i = e.1 := fun h' => hi h'.symm
        simp [hi, this]
    rw [Finset.sum_congr rfl hstep, Finset.sum_add_distrib, Finset.sum_ite_eq', if_pos (mem_range.mpr he),
      ih fun e' he' => h e' (List.mem_cons_of_mem _ he')]
    simp

/-- `Σ_{i<nrow} |A(i,j)|` of the dense matrix -/
def denseColSum (A : NCMat) (j : Nat) : Rat := rsum A.nrow fun i => rabs (A.entry i j)
/-- `Σ_{j<ncol} |A(i,j)|` -/
def denseRowSum (A : NCMat) (i : Nat) : Rat := rsum A.ncol fun j => rabs (A.entry i j)

theorem colSumAbs_eq_dense (A : NCMat) (hwf : A.wf) (j : Nat) (hj : j < A.ncol) : colSumAbs A j = denseColSum A j := by
  unfold colSumAbs denseColSum NCMat.entry
  rw [foldl_add_eq, zero_add, rsum_eq]
  rw [Finset.sum_congr rfl fun i _ => abs_entry_eq (A.col j) (hwf.2 j hj) i]
  exact (sum_rows_filter A.nrow (A.col j) (fun e => rabs e.2) (hwf.1 j hj)).symm

theorem rowSumAbs_eq_dense (A : NCMat) (hwf : A.wf) (i : Nat) : rowSumAbs A i = denseRowSum A i := by
  unfold rowSumAbs denseRowSum NCMat.entry
  rw [rsum_eq]
  refine foldl_range_add _ fun s j hj => ?_
  rw [List.foldl_ite_left, foldl_add_eq, abs_entry_eq (A.col j) (hwf.2 j hj) i]

end Slu
