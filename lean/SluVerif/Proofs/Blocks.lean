/- supernode partitions: the loop `checkBlocksFrom` of the executable check is sound and complete for "consecutive
   blocks covering 0..n-1", and what the model of qrnzcnt (first pass) and cholnzcnt computes always passes the
   check, for every etree / adjacency input, even inconsistent ones. -/
import SluVerif.Proofs.EtreeBasic
namespace Slu.Pre

/-- consecutive blocks `[k, k+part[k])`, ... ending exactly at `n`, entries after a block's first are 0 -/
inductive Blocks (part : Array Nat) (n : Nat) : Nat → Prop
  | done : Blocks part n n
  | block {k : Nat} (s : Nat) : getN part k = s → 1 ≤ s → k + s ≤ n →
      (∀ j, k < j → j < k + s → getN part j = 0) → Blocks part n (k + s) → Blocks part n k

theorem checkBlocksFrom_sound (part : Array Nat) (n : Nat) :
    ∀ f k, checkBlocksFrom part n f k = true → Blocks part n k
  | 0, k, h => by
      simp only [checkBlocksFrom, decide_eq_true_eq] at h
      subst h
      exact Blocks.done
  | f + 1, k, h => by
      unfold checkBlocksFrom at h
      split at h
      next he =>
        subst he
        exact Blocks.done
      next =>
        simp only [Bool.and_eq_true, decide_eq_true_eq, List.all_eq_true, beq_iff_eq] at h
        obtain ⟨⟨⟨h1, h2⟩, h3⟩, h4⟩ := h
        refine Blocks.block _ rfl h1 h2 ?_ (checkBlocksFrom_sound part n f _ h4)
        exact fun j hj1 hj2 => h3 j (List.mem_range'_1.2 ⟨hj1, by omega⟩)

theorem checkBlocksFrom_complete (part : Array Nat) (n : Nat) :
    ∀ f k, n - k ≤ f → Blocks part n k → checkBlocksFrom part n f k = true
  | 0, k, hf, h => by
      cases h with
      | done => simp [checkBlocksFrom]
      | block s _ _ _ _ _ => omega
  | f + 1, k, hf, h => by
      unfold checkBlocksFrom
      cases h with
      | done => simp
      | block s h0 h1 h2 h3 h4 =>
          have hk : k ≠ n := by omega
          simp only [hk, if_false, Bool.and_eq_true, decide_eq_true_eq, List.all_eq_true, beq_iff_eq]
          subst h0
          refine ⟨⟨⟨h1, h2⟩, ?_⟩, checkBlocksFrom_complete part n f _ (by omega) h4⟩
          intro j hj
          obtain ⟨hj1, hj2⟩ := List.mem_range'_1.1 hj
          exact h3 j hj1 (by omega)

theorem Blocks.cover {part : Array Nat} {n k : Nat} (h : Blocks part n k) :
    ∀ j, k ≤ j → j < n → ∃ b, k ≤ b ∧ b ≤ j ∧ 1 ≤ getN part b ∧ j < b + getN part b ∧
      b + getN part b ≤ n ∧ ∀ i, b < i → i ≤ j → getN part i = 0 := by
  induction h with
  | done =>
      omega
  | @block k s h0 h1 h2 h3 _ ih =>
      intro j hj hjn
      by_cases hjs : j < k + s
      · exact ⟨k, Nat.le_refl _, hj, by omega, by omega, by omega, fun i hi1 hi2 => h3 i hi1 (by omega)⟩
      · obtain ⟨b, hb1, hb2, hb3⟩ := ih j (by omega) hjn
        exact ⟨b, by omega, hb2, hb3⟩

/-- blocks ending exactly at `b`, built from the left -/
inductive BlocksTo (part : Array Nat) : Nat → Prop
  | zero : BlocksTo part 0
  | snoc {b : Nat} (s : Nat) : BlocksTo part b → 1 ≤ s → getN part b = s →
      (∀ j, b < j → j < b + s → getN part j = 0) → BlocksTo part (b + s)

theorem BlocksTo.frame {part part' : Array Nat} {b : Nat} (h : BlocksTo part b)
    (he : ∀ j, j < b → getN part' j = getN part j) : BlocksTo part' b := by
  induction h with
  | zero => exact BlocksTo.zero
  | @snoc b s _ h1 h2 h3 ih =>
      refine BlocksTo.snoc s (ih (fun j hj => he j (by omega))) h1 ?_ ?_
      · rw [he b (by omega)]
        exact h2
      · intro j hj1 hj2
        rw [he j hj2]
        exact h3 j hj1 hj2

theorem BlocksTo.toBlocks {part : Array Nat} {n b : Nat} (h : BlocksTo part b) (hb : Blocks part n b) :
    Blocks part n 0 := by
  induction h with
  | zero => exact hb
  | @snoc b s _ h1 h2 h3 ih =>
      have hle : b + s ≤ n := by
        cases hb with
        | done => exact Nat.le_refl _
        | block s' _ _ h _ _ => omega
      exact ih (Blocks.block s h2 h1 hle h3 hb)

/-- what the partition builders keep true of `part_super` and `xsup`: blocks up to `xsup`, nothing written from
`xsup` on.  `PSt` and `PLoop` add where `xsup` stands relative to the loop index. -/
structure PInv (n : Nat) (part : Array Nat) (xsup : Nat) : Prop where
  sz : part.size = n
  bl : BlocksTo part xsup
  zr : ∀ j, xsup ≤ j → getN part j = 0

theorem PInv.close {n k : Nat} {part : Array Nat} {xsup : Nat} (h : PInv n part xsup) (hlt : xsup < k) (hk : k ≤ n) :
    PInv n (part.setIfInBounds xsup (k - xsup)) k := by
  have hx : xsup < part.size := by
    rw [h.sz]
    omega
  have hoff : ∀ j, xsup ≠ j → getN (part.setIfInBounds xsup (k - xsup)) j = getN part j :=
    fun j hj => getN_set_ne hj
  refine ⟨by simp [h.sz], ?_, fun j hj => by rw [hoff j (by omega)]; exact h.zr j (by omega)⟩
  have := BlocksTo.snoc (k - xsup) (h.bl.frame fun j hj => hoff j (by omega)) (by omega) (getN_set_self hx)
    fun j hj1 hj2 => by
      rw [hoff j (by omega)]
      exact h.zr j (by omega)
  rwa [show xsup + (k - xsup) = k by omega] at this

/-- writing the value that is already there (0) changes nothing -/
theorem PInv.rewrite0 {n : Nat} {part : Array Nat} {xsup : Nat} (h : PInv n part xsup) :
    PInv n (part.setIfInBounds xsup 0) xsup := by
  have hget : ∀ j, getN (part.setIfInBounds xsup 0) j = getN part j := by
    intro j
    rw [getN_set]
    split
    next hw =>
      rw [← hw.1]
      exact (h.zr xsup (Nat.le_refl _)).symm
    next => rfl
  exact ⟨by simp [h.sz], h.bl.frame (fun j _ => hget j), fun j hj => by rw [hget]; exact h.zr j hj⟩

-- (`n = 0` apart: `part[0] = 0` is then out of range and dropped)
theorem PInv.finish {n : Nat} {part : Array Nat} {xsup : Nat} (h : PInv n part xsup) (hlt : xsup < n ∨ n = 0 ∧ xsup = 0) :
    checkPartSuper n (part.setIfInBounds xsup (n - xsup)) = true := by
  rcases hlt with hlt | ⟨h0, hx0⟩
  · have hc := h.close hlt (Nat.le_refl _)
    unfold checkPartSuper
    simp only [Bool.and_eq_true, beq_iff_eq]
    exact ⟨hc.sz, checkBlocksFrom_complete _ n n 0 (by omega) (hc.bl.toBlocks Blocks.done)⟩
  · subst h0
    subst hx0
    have : part = #[] := Array.eq_empty_of_size_eq_zero h.sz
    subst this
    decide

/-- inside iteration `k`: `xsup ≤ k` -/
def PSt (n k : Nat) (part : Array Nat) (xsup : Nat) : Prop := PInv n part xsup ∧ xsup ≤ k

/-- at the head of iteration `k`: `xsup` is an earlier column (both are 0 at the start) -/
def PLoop (n k : Nat) (part : Array Nat) (xsup : Nat) : Prop :=
  PInv n part xsup ∧ (xsup < k ∨ (k = 0 ∧ xsup = 0))

theorem PLoop.init (n : Nat) : PLoop n 0 (Array.replicate n 0) 0 := by
  refine ⟨{ sz := by simp, bl := BlocksTo.zero, zr := fun j _ => ?_ }, Or.inr ⟨rfl, rfl⟩⟩
  rw [getN_replicate]
  split <;> rfl

theorem PLoop.toPSt {n k : Nat} {part : Array Nat} {xsup : Nat} (h : PLoop n k part xsup) : PSt n k part xsup :=
  ⟨h.1, by rcases h.2 with h | ⟨_, h⟩ <;> omega⟩

theorem PSt.next {n k : Nat} {part : Array Nat} {xsup : Nat} (h : PSt n k part xsup) : PLoop n (k + 1) part xsup :=
  ⟨h.1, Or.inl (Nat.lt_succ_of_le h.2)⟩

theorem PSt.closeIf {n k : Nat} {part : Array Nat} {xsup : Nat} (h : PSt n k part xsup) (hk : k < n)
    (c : Prop) [Decidable c] (hc : c → xsup ≠ k) :
    PSt n k (if c then closeBlock k (part, xsup) else (part, xsup)).1
            (if c then closeBlock k (part, xsup) else (part, xsup)).2 := by
  split
  next hcc =>
    have := hc hcc
    exact ⟨h.1.close (by have := h.2; omega) (by omega), Nat.le_refl _⟩
  next => exact h

/- In the model's state tuples the first component is `part_super`, the last one `xsup`. -/

theorem qrRow_inv {n k : Nat} (hk : k < n) (adjncy : Array Nat) (st : Array Nat × Array (Option Nat) × Nat) (j : Nat)
    (h : PSt n k st.1 st.2.2) : PSt n k (qrRow k adjncy st j).1 (qrRow k adjncy st j).2.2 := by
  unfold qrRow
  simp only
  split
  · exact h.closeIf hk _ (fun hc => hc.2)
  · exact h

theorem qrRows_inv {n k : Nat} (hk : k < n) (adjncy : Array Nat) :
    ∀ (l : List Nat) (st : Array Nat × Array (Option Nat) × Nat), PSt n k st.1 st.2.2 →
      PSt n k (l.foldl (qrRow k adjncy) st).1 (l.foldl (qrRow k adjncy) st).2.2
  | [], _, h => h
  | j :: l, st, h => qrRows_inv hk adjncy l _ (qrRow_inv hk adjncy st j h)

theorem qrStep_inv {n k : Nat} (hk : k < n) (xadj adjncy perm etpar : Array Nat)
    (st : Array Nat × Array Nat × Array (Option Nat) × Nat) (h : PLoop n k st.1 st.2.2.2) :
    PLoop n (k + 1) (qrStep xadj adjncy perm etpar st k).1 (qrStep xadj adjncy perm etpar st k).2.2.2 := by
  unfold qrStep
  simp only
  -- the guard `k ≠ 0 ∧ …` gives `xsup < k`
  refine (qrRows_inv hk adjncy (colRangeP xadj (getN perm k)) (_, st.2.2.1, _)
    (h.toPSt.closeIf hk _ fun hc => ?_)).next
  rcases h.2 with h | ⟨h, _⟩
  · omega
  · exact absurd h hc.1

theorem qrPart_blocks {n : Nat} {xadj adjncy perm etpar : Array Nat} :
    checkPartSuper n (qrPart n xadj adjncy perm etpar) = true := by
  unfold qrPart
  simp only
  have key := foldl_range_inv (qrStep xadj adjncy perm etpar) (fun k st => PLoop n k st.1 st.2.2.2)
    (Array.replicate n 0, Array.replicate (n + 1) 0, Array.replicate n none, 0) n (PLoop.init n)
    (fun k st hk hI => qrStep_inv hk xadj adjncy perm etpar st hI)
  exact key.1.finish key.2

theorem cholStep_inv {n k : Nat} (hk : k < n) (xadj adjncy perm invp fdesc nchild : Array Nat)
    (st : Array Nat × Array (Option Nat) × Nat) (h : PLoop n k st.1 st.2.2) :
    PLoop n (k + 1) (cholStep xadj adjncy perm invp fdesc nchild st k).1
      (cholStep xadj adjncy perm invp fdesc nchild st k).2.2 := by
  unfold cholStep
  simp only
  split
  · refine ⟨?_, Or.inl (Nat.lt_succ_self k)⟩
    unfold closeBlock
    simp only
    rcases h.2 with hlt | ⟨h0, hx0⟩
    · exact h.1.close hlt (by omega)
    · -- lownbr = 0 = xsup: `part_super_L[0] = 0` rewrites the 0 that is there
      subst h0
      rw [hx0] at h ⊢
      exact h.1.rewrite0
  · exact h.toPSt.next

theorem cholPart_blocks {n : Nat} {xadj adjncy perm invp etpar : Array Nat} :
    checkPartSuper n (cholPart n xadj adjncy perm invp etpar) = true := by
  unfold cholPart
  simp only
  have key := foldl_range_inv (cholStep xadj adjncy perm invp (cholPre n etpar).1 (cholPre n etpar).2)
    (fun k st => PLoop n k st.1 st.2.2) (Array.replicate n 0, Array.replicate n none, 0) n (PLoop.init n)
    (fun k st hk hI => cholStep_inv hk xadj adjncy perm invp _ _ st hI)
  exact key.1.finish key.2

theorem colorder_part_blocks (m n : Nat) (colptr rowind pc : Array Nat) (symm : Bool) (et0 part0 : Array Nat) :
    checkPartSuper n (colorder m n colptr rowind pc symm false et0 part0).part = true := by
  unfold colorder
  simp only [Bool.false_eq_true, if_false]
  split
  · exact cholPart_blocks
  · exact qrPart_blocks

end Slu.Pre
