/- For the families whose code deviates from the documented table: the table the code implements (`Coded.*`, equal to
   the family chain by `Chain.*_code_table`), the exclusion under which it is the documented one, the witness records. -/
import SluVerif.Proofs.ArgLemmas
namespace Slu
open Slu.Arg Slu.Gen Slu.Doc Slu.ArgLemmas

namespace Coded

/-! #### p?gssv: position 7 tests the shape of B only -/
def gssv (dt : Int) (a : GssvArgs) : List (Nat × Bool) :=
  [(1, gssv.violates_1 a), (2, gssv.violates_2 dt a), (7, decide (a.B_ncol < 0 ∨ a.B_lda < max 1 a.A_nrow))]

theorem gssv_eq_doc (dt : Int) (a : GssvArgs) (hB : a.B_Stype = SLU_DN ∧ a.B_Dtype = dt ∧ a.B_Mtype = SLU_GE) :
    firstOffender (gssv dt a) = gssv.docInfo dt a := by
  simp only [gssv, gssv.docInfo, gssv.table, gssv.violates_7]
  table_norm
  chain_same
  chain_same
  chain_step
  rfl

theorem gssv_valid_types (dt : Int) (a : GssvArgs) (h : gssv.valid dt a = true) :
    a.B_Stype = SLU_DN ∧ a.B_Dtype = dt ∧ a.B_Mtype = SLU_GE := by
  have h7 := of_decide_eq_false (valid_at h 7 rfl)
  omega

/-! #### ?gstrs: L is tested under 3, U under 4, shapes only; all four precisions accept CONJ (the c/z header does
     not list it) -/
def gstrs (a : GstrsArgs) : List (Nat × Bool) :=
  [(1, decide (¬(a.trans = NOTRANS ∨ a.trans = TRANS ∨ a.trans = CONJ))),
   (3, gstrs.shape_2 a), (4, gstrs.shape_3 a), (6, gstrs.shape_6 a)]

/-- L and U well shaped, all documented types right and, where the header does not list CONJ (c/z), trans is not CONJ:
    only `trans` and B's leading dimension are left to go wrong -/
def gstrsExcl (docConj : Bool) (dt : Int) (a : GstrsArgs) : Prop :=
  gstrs.shape_2 a = false ∧ gstrs.shape_3 a = false ∧ gstrs.types_2 dt a = false ∧ gstrs.types_3 dt a = false ∧
  gstrs.types_6 dt a = false ∧ (docConj = false → a.trans ≠ CONJ)
instance (docConj : Bool) (dt : Int) (a : GstrsArgs) : Decidable (gstrsExcl docConj dt a) := by
  unfold gstrsExcl; infer_instance

theorem gstrs_eq_doc (docConj : Bool) (dt : Int) (a : GstrsArgs) (hx : gstrsExcl docConj dt a) :
    firstOffender (gstrs a) = gstrs.docInfo docConj dt a := by
  obtain ⟨h2, h3, t2, t3, t6, hc⟩ := hx
  simp only [gstrs, gstrs.docInfo, gstrs.table, gstrs.violates_1, gstrs.violates_2, gstrs.violates_3, gstrs.violates_6,
    h2, h3, t2, t3, t6, Bool.or_false]
  cases docConj
  · have := hc rfl
    table_norm; enum_unfold
    chain_step
    rfl
  · table_norm

theorem gstrs_valid_excl (docConj : Bool) (dt : Int) (a : GstrsArgs) (h : gstrs.valid docConj dt a = true) :
    gstrsExcl docConj dt a := by
  have e2 := Bool.or_eq_false_iff.1 (valid_at h 2 rfl)
  have e3 := Bool.or_eq_false_iff.1 (valid_at h 3 rfl)
  refine ⟨e2.1, e3.1, e2.2, e3.2, (Bool.or_eq_false_iff.1 (valid_at h 6 rfl)).2, ?_⟩
  rintro rfl
  have e1 := of_decide_eq_false (valid_at h 1 rfl)
  simp only [Bool.false_eq_true, false_and, or_false] at e1
  enum_unfold
  omega

/-! #### ?gsrfs: position 7 (equed) is not tested -/
def gsrfs (dt : Int) (a : GsrfsArgs) : List (Nat × Bool) :=
  [(1, gsrfs.violates_1 a), (2, gsrfs.violates_2 dt a), (3, gsrfs.violates_3 dt a), (4, gsrfs.violates_4 dt a),
   (10, gsrfs.violates_10 dt a), (11, gsrfs.violates_11 dt a)]

/-- entries `(i, false)` never offend -/
theorem gsrfs_eq_doc (dt : Int) (a : GsrfsArgs) (h7 : gsrfs.violates_7 a = false) :
    firstOffender (gsrfs dt a) = gsrfs.docInfo dt a := by
  simp only [gsrfs, gsrfs.docInfo, gsrfs.table, h7, fo_cons, Bool.false_eq_true, ↓reduceIte]

theorem gsrfs_valid_equed (dt : Int) (a : GsrfsArgs) (h : gsrfs.valid dt a = true) : gsrfs.violates_7 a = false :=
  valid_at h 7 rfl

/-! #### sp_?trsv: L and U are tested for shape only -/
def trsv (a : TrsvArgs) : List (Nat × Bool) :=
  [(1, trsv.violates_1 a), (2, trsv.violates_2 a), (3, trsv.violates_3 a), (4, trsv.shape_4 a), (5, trsv.shape_5 a)]

/-- The first conjunct is used by no theorem (all four precisions accept 'C'); Driver/ArgCheck.lean evaluates the
    predicate with `cOk = false` for c/z. -/
def trsvExcl (cOk : Bool) (dt : Int) (a : TrsvArgs) : Prop :=
  (cOk = false → isLetter a.trans 67 = false) ∧ trsv.types_4 dt a = false ∧ trsv.types_5 dt a = false
instance (cOk : Bool) (dt : Int) (a : TrsvArgs) : Decidable (trsvExcl cOk dt a) := by unfold trsvExcl; infer_instance

theorem trsv_eq_doc {cOk : Bool} (dt : Int) (a : TrsvArgs) (hx : trsvExcl cOk dt a) :
    firstOffender (trsv a) = trsv.docInfo dt a := by
  simp only [trsv, trsv.docInfo, trsv.table, trsv.violates_4, trsv.violates_5, hx.2.1, hx.2.2, Bool.or_false, fo_cons,
    Bool.false_eq_true, ↓reduceIte]

theorem trsv_valid_excl (dt : Int) (a : TrsvArgs) (h : trsv.valid dt a = true) : trsvExcl true dt a :=
  ⟨nofun, (Bool.or_eq_false_iff.1 (valid_at h 4 rfl)).2, (Bool.or_eq_false_iff.1 (valid_at h 5 rfl)).2⟩

/-! #### sp_?gemv: position 3 tests the sizes of A only -/
def gemv (a : GemvArgs) : List (Nat × Bool) :=
  [(1, gemv.violates_1 a), (3, gemv.shape_3 a), (5, gemv.violates_5 a), (8, gemv.violates_8 a)]

theorem gemv_eq_doc (dt : Int) (a : GemvArgs) (h3 : gemv.types_3 dt a = false) :
    firstOffender (gemv a) = gemv.docInfo dt a := by
  simp only [gemv, gemv.docInfo, gemv.table, gemv.violates_3,
    gemv.shape_3, h3]
  table_norm

theorem gemv_valid_types (dt : Int) (a : GemvArgs) (h : gemv.valid dt a = true) : gemv.types_3 dt a = false :=
  (Bool.or_eq_false_iff.1 (valid_at h 3 rfl)).2

end Coded

/-! ### witness records (3 x 3 systems, one right-hand side) -/
namespace Witness

def gssvOk (dt : Int) : GssvArgs :=
  { nprocs := 2, A_nrow := 3, A_ncol := 3, A_Stype := SLU_NC, A_Dtype := dt, A_Mtype := SLU_GE,
    B_ncol := 1, B_lda := 3, B_Stype := SLU_DN, B_Dtype := dt, B_Mtype := SLU_GE }
def gssvBadA : GssvArgs := { gssvOk SLU_D with A_ncol := 4, B_lda := 0 }
/-- B tagged compressed-column: documented violation of argument 7, accepted by the code -/
def gssvBadBtype (dt : Int) : GssvArgs := { gssvOk dt with B_Stype := SLU_NC }

def gssvxOk (dt : Int) : GssvxArgs :=
  { nprocs := 1, superlumt_options_fact := FACTORED, superlumt_options_trans := TRANS, superlumt_options_refact := NO,
    superlumt_options_usepr := NO, superlumt_options_lwork := -1,
    A_nrow := 3, A_ncol := 3, A_Stype := SLU_NR, A_Dtype := dt, A_Mtype := SLU_GE,
    equed := BOTH, R := [1, 2, 1], C := [1, 1, 4],
    B_ncol := 2, B_lda := 3, B_Stype := SLU_DN, B_Dtype := dt, B_Mtype := SLU_GE,
    X_ncol := 2, X_lda := 4, X_Stype := SLU_DN, X_Dtype := dt, X_Mtype := SLU_GE, bignum := 1 }
def gssvxBadR (dt : Int) : GssvxArgs := { gssvxOk dt with R := [1, 0, 1], C := [-1, 1, 1], X_ncol := 5 }

def gstrsOk (dt : Int) : GstrsArgs :=
  { trans := TRANS, L_nrow := 3, L_ncol := 3, L_Stype := SLU_SCP, L_Dtype := dt, L_Mtype := SLU_TRLU,
    U_nrow := 3, U_ncol := 3, U_Stype := SLU_NCP, U_Dtype := dt, U_Mtype := SLU_TRU,
    B_lda := 3, B_Stype := SLU_DN, B_Dtype := dt, B_Mtype := SLU_GE }
def gstrsBadLda (dt : Int) : GstrsArgs := { gstrsOk dt with B_lda := 2 }
def gstrsBadL (dt : Int) : GstrsArgs := { gstrsOk dt with L_ncol := 4 }
def gstrsBadU (dt : Int) : GstrsArgs := { gstrsOk dt with U_nrow := -1, U_ncol := -1 }
def gstrsBadLtype (dt : Int) : GstrsArgs := { gstrsOk dt with L_Mtype := SLU_GE }
def gstrsConj (dt : Int) : GstrsArgs := { gstrsOk dt with trans := CONJ }

def gsrfsOk (dt : Int) : GsrfsArgs :=
  { trans := CONJ, A_nrow := 3, A_ncol := 3, A_Stype := SLU_NC, A_Dtype := dt, A_Mtype := SLU_GE,
    L_nrow := 3, L_ncol := 3, L_Stype := SLU_SCP, L_Dtype := dt, L_Mtype := SLU_TRLU,
    U_nrow := 3, U_ncol := 3, U_Stype := SLU_NCP, U_Dtype := dt, U_Mtype := SLU_TRU, equed := ROW,
    B_lda := 3, B_Stype := SLU_DN, B_Dtype := dt, B_Mtype := SLU_GE,
    X_lda := 3, X_Stype := SLU_DN, X_Dtype := dt, X_Mtype := SLU_GE }
def gsrfsBadX (dt : Int) : GsrfsArgs := { gsrfsOk dt with X_lda := 2 }
def gsrfsBadEqued (dt : Int) : GsrfsArgs := { gsrfsOk dt with equed := 4 }

def gsconOk (dt : Int) : GsconArgs :=
  { norm := 105, L_nrow := 3, L_ncol := 3, L_Stype := SLU_SCP, L_Dtype := dt, L_Mtype := SLU_TRLU,
    U_nrow := 3, U_ncol := 3, U_Stype := SLU_NCP, U_Dtype := dt, U_Mtype := SLU_TRU }
def gsconBadU (dt : Int) : GsconArgs := { gsconOk dt with U_Stype := SLU_NC }

def gsequOk (dt : Int) : GsequArgs := { A_nrow := 3, A_ncol := 5, A_Stype := SLU_NC, A_Dtype := dt, A_Mtype := SLU_GE }
def gsequBad (dt : Int) : GsequArgs := { gsequOk dt with A_ncol := -1 }

def trsvOk (dt : Int) : TrsvArgs :=
  { uplo := 108, trans := 84, diag := 85, L_nrow := 3, L_ncol := 3, L_Stype := SLU_SCP, L_Dtype := dt, L_Mtype := SLU_TRLU,
    U_nrow := 3, U_ncol := 3, U_Stype := SLU_NCP, U_Dtype := dt, U_Mtype := SLU_TRU }
def trsvBadDiag (dt : Int) : TrsvArgs := { trsvOk dt with diag := 88 }
/-- trans = 'C': documented and accepted -/
def trsvC (dt : Int) : TrsvArgs := { trsvOk dt with trans := 67 }
def trsvBadLtype (dt : Int) : TrsvArgs := { trsvOk dt with L_Stype := SLU_NC }

def gemvOk (dt : Int) : GemvArgs :=
  { trans := 99, A_nrow := 3, A_ncol := 4, A_Stype := SLU_NCP, A_Dtype := dt, A_Mtype := SLU_GE, incx := 1, incy := -2 }
def gemvBadIncy (dt : Int) : GemvArgs := { gemvOk dt with incy := 0 }
def gemvBadAtype (dt : Int) : GemvArgs := { gemvOk dt with A_Stype := SLU_DN }

end Witness
end Slu
