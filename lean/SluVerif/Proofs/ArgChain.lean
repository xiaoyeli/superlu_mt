/- The argument-check chain of each routine family, with the `Dtype_t` tag as a parameter, and what it reports: the
   coded table for every record, the documented table under the family's exclusion, 0 on every valid record.  The four
   generated `<routine>Check` of a family (Gen/ArgCheck.lean) differ in that tag only: Props/C15.lean states, per
   family, that each is the family chain at its tag (`*_chains`, by `rfl`) and carries the theorems over along it, so a
   test changed in one precision's source breaks exactly that routine's component.  Each `Chain.f` is the text of the d
   routine's generated chain (`Gen.pdgssvChain`, `Gen.pdgssvx_*`, …) with `SLU_D` replaced by `dt`: when the
   generator's output changes, copy the new text here in the same way. -/
import SluVerif.Proofs.ArgCoded
namespace Slu.Chain
open Slu.Arg Slu.Gen Slu.Doc Slu.ArgLemmas

def gssv (dt : Int) (a : GssvArgs) : Int :=
  if a.nprocs ≤ 0 then (-1)
  else if ((((a.A_nrow ≠ a.A_ncol ∨ a.A_nrow < 0) ∨ (a.A_Stype ≠ SLU_NC ∧ a.A_Stype ≠ SLU_NR)) ∨ a.A_Dtype ≠ dt) ∨ a.A_Mtype ≠ SLU_GE) then (-2)
  else if (a.B_ncol < 0 ∨ a.B_lda < (cmax 1 a.A_nrow)) then (-7)
  else 0

theorem gssv_code_table (dt : Int) (a : GssvArgs) : gssv dt a = firstOffender (Coded.gssv dt a) := by
  simp only [gssv, Coded.gssv, gssv.violates_1, gssv.violates_2]
  table_norm
  rfl
theorem gssv_first_offender_partial (dt : Int) (a : GssvArgs)
    (hB : a.B_Stype = SLU_DN ∧ a.B_Dtype = dt ∧ a.B_Mtype = SLU_GE) : gssv dt a = gssv.docInfo dt a := by
  rw [gssv_code_table, Coded.gssv_eq_doc dt a hB]
theorem gssv_accepts_valid (dt : Int) (a : GssvArgs) (h : gssv.valid dt a = true) : gssv dt a = 0 := by
  rw [gssv_first_offender_partial dt a (Coded.gssv_valid_types dt a h)]
  exact firstOffender_of_allValid h

-- the generator's helpers `pdgssvx_colequ`, `_rowequ`, `_info1`, `_info2`, copied like the chains
def gssvx_colequ (a : GssvxArgs) : Prop :=
  (if (a.superlumt_options_fact = DOFACT ∨ a.superlumt_options_fact = EQUILIBRATE) then False else (a.equed = COL ∨ a.equed = BOTH))
instance (a : GssvxArgs) : Decidable (gssvx_colequ a) := by unfold gssvx_colequ; infer_instance
def gssvx_rowequ (a : GssvxArgs) : Prop :=
  (if (a.superlumt_options_fact = DOFACT ∨ a.superlumt_options_fact = EQUILIBRATE) then False else (a.equed = ROW ∨ a.equed = BOTH))
instance (a : GssvxArgs) : Decidable (gssvx_rowequ a) := by unfold gssvx_rowequ; infer_instance
def gssvx_info1 (a : GssvxArgs) : Int :=
  if gssvx_rowequ a then (
      if (loopMin a.bignum a.R a.A_nrow) ≤ 0 then (-7)
      else 0
    )
  else 0
def gssvx_info2 (a : GssvxArgs) : Int :=
  if (gssvx_colequ a ∧ gssvx_info1 a = 0) then (
      if (loopMin a.bignum a.C a.A_nrow) ≤ 0 then (-8)
      else gssvx_info1 a
    )
  else gssvx_info1 a
def gssvx (dt : Int) (a : GssvxArgs) : Int :=
  if a.nprocs ≤ 0 then (-1)
  else if ((((((¬(a.superlumt_options_fact = DOFACT) ∧ ¬(a.superlumt_options_fact = EQUILIBRATE)) ∧ a.superlumt_options_fact ≠ FACTORED) ∨ ((¬(a.superlumt_options_trans = NOTRANS) ∧ a.superlumt_options_trans ≠ TRANS) ∧ a.superlumt_options_trans ≠ CONJ)) ∨ (a.superlumt_options_refact ≠ YES ∧ a.superlumt_options_refact ≠ NO)) ∨ (a.superlumt_options_usepr ≠ YES ∧ a.superlumt_options_usepr ≠ NO)) ∨ a.superlumt_options_lwork < (-1)) then (-2)
  else if ((((a.A_nrow ≠ a.A_ncol ∨ a.A_nrow < 0) ∨ (a.A_Stype ≠ SLU_NC ∧ a.A_Stype ≠ SLU_NR)) ∨ a.A_Dtype ≠ dt) ∨ a.A_Mtype ≠ SLU_GE) then (-3)
  else if (a.superlumt_options_fact = FACTORED ∧ ¬(((gssvx_rowequ a ∨ gssvx_colequ a) ∨ (if (a.superlumt_options_fact = DOFACT ∨ a.superlumt_options_fact = EQUILIBRATE) then NOEQUIL else a.equed) = NOEQUIL))) then (-6)
  else if gssvx_info2 a = 0 then (
      if ((((a.B_ncol < 0 ∨ a.B_lda < (cmax 0 a.A_nrow)) ∨ a.B_Stype ≠ SLU_DN) ∨ a.B_Dtype ≠ dt) ∨ a.B_Mtype ≠ SLU_GE) then (-11)
      else if (((((a.X_ncol < 0 ∨ a.X_lda < (cmax 0 a.A_nrow)) ∨ a.B_ncol ≠ a.X_ncol) ∨ a.X_Stype ≠ SLU_DN) ∨ a.X_Dtype ≠ dt) ∨ a.X_Mtype ≠ SLU_GE) then (-12)
      else gssvx_info2 a
    )
  else gssvx_info2 a

theorem gssvx_rowequ_iff (a : GssvxArgs) : gssvx_rowequ a ↔
    (¬(a.superlumt_options_fact = DOFACT ∨ a.superlumt_options_fact = EQUILIBRATE) ∧
      (a.equed = ROW ∨ a.equed = BOTH)) :=
  if_false_left
theorem gssvx_colequ_iff (a : GssvxArgs) : gssvx_colequ a ↔
    (¬(a.superlumt_options_fact = DOFACT ∨ a.superlumt_options_fact = EQUILIBRATE) ∧
      (a.equed = COL ∨ a.equed = BOTH)) :=
  if_false_left
/-- `bignum = 1/?lamch("Safe minimum")` is positive: the only fact about it that the chain uses -/
theorem gssvx_info2_eq (a : GssvxArgs) (hb : 0 < a.bignum) : gssvx_info2 a =
    if gssvx_rowequ a ∧ someNonPos a.R a.A_nrow = true then -7
    else if gssvx_colequ a ∧ someNonPos a.C a.A_nrow = true then -8 else 0 := by
  simp only [gssvx_info2, gssvx_info1, loopMin_le hb]
  by_cases h1 : gssvx_rowequ a ∧ someNonPos a.R a.A_nrow = true
  · -- the R scan has set −7: `info1 = 0` fails and the C scan is skipped
    simp [h1]
  · -- `info1 = 0`: the C scan decides
    have hR : gssvx_rowequ a → ¬someNonPos a.R a.A_nrow = true := fun hr h => h1 ⟨hr, h⟩
    by_cases hr : gssvx_rowequ a <;> by_cases hc : gssvx_colequ a <;> simp [hr, hc, hR]

/-- `if (info2 == 0) { B test; X test }` after the R / C scans, as one chain -/
theorem gssvx_tail (p q b x : Prop) [Decidable p] [Decidable q] [Decidable b] [Decidable x] :
    (if (if p then (-7:Int) else if q then -8 else 0) = 0 then
        (if b then (-11:Int) else if x then -12 else (if p then (-7:Int) else if q then -8 else 0))
      else (if p then (-7:Int) else if q then -8 else 0))
    = if p then -7 else if q then -8 else if b then -11 else if x then -12 else 0 := by
  -- `p` or `q`: the inner value is not 0 and is passed on; neither: the B and X tests run
  by_cases hp : p <;> by_cases hq : q <;> simp [hp, hq]

/-- No deviation.  Two tests lean on earlier ones: R and C are scanned only when `fact` is legal (so "not DOFACT, not
    EQUILIBRATE" is FACTORED), and `C[j]` is scanned over A->nrow, which is A->ncol once the A test has passed. -/
theorem gssvx_first_offender (dt : Int) (a : GssvxArgs) (hb : 0 < a.bignum) : gssvx dt a = gssvx.docInfo dt a := by
  simp only [gssvx, gssvx_info2_eq a hb, gssvx_tail, gssvx_rowequ_iff, gssvx_colequ_iff,
      gssvx.docInfo, gssvx.table, gssvx.violates_1, gssvx.violates_2, gssvx.violates_3, gssvx.violates_6,
      gssvx.violates_7, gssvx.violates_8, gssvx.violates_11, gssvx.violates_12]
  table_norm; enum_unfold
  chain_same
  -- test 2 and entry 2 differ in the order of the two `refact` values only
  refine ite_congr' (or_congr_right (or_congr_right (or_congr_left and_comm))) rfl fun h2 => ?_
  have hfact : ¬a.superlumt_options_fact = 0 ∧ ¬a.superlumt_options_fact = 1 ↔ a.superlumt_options_fact = 2 := by
    have := (not_or.mp h2).1
    omega
  clear h2
  refine ite_congr' Iff.rfl rfl fun h3 => ?_
  have hsq : a.A_nrow = a.A_ncol := Decidable.not_not.mp (not_or.mp h3).1
  rw [← hsq]
  chain_step
  -- tests 7, 8 (R and C scans): `hfact` turns "not DOFACT and not EQUILIBRATE" into "FACTORED"
  refine ite_congr' (and_assoc.symm.trans (and_congr_left' hfact)) rfl fun _ => ?_
  refine ite_congr' (and_assoc.symm.trans (and_congr_left' hfact)) rfl fun _ => ?_
  chain_step
  chain_step
  rfl
theorem gssvx_accepts_valid (dt : Int) (a : GssvxArgs) (hb : 0 < a.bignum) (h : gssvx.valid dt a = true) :
    gssvx dt a = 0 := by
  rw [gssvx_first_offender dt a hb]; exact firstOffender_of_allValid h

/-! ### ?gstrs (no test mentions the precision) -/
def gstrs (a : GstrsArgs) : Int :=
  if ((a.trans ≠ NOTRANS ∧ a.trans ≠ TRANS) ∧ a.trans ≠ CONJ) then (-1)
  else if (a.L_nrow ≠ a.L_ncol ∨ a.L_nrow < 0) then (-3)
  else if (a.U_nrow ≠ a.U_ncol ∨ a.U_nrow < 0) then (-4)
  else if a.B_lda < (cmax 0 a.L_nrow) then (-6)
  else 0

theorem gstrs_code_table (a : GstrsArgs) : gstrs a = firstOffender (Coded.gstrs a) := by
  simp only [gstrs, Coded.gstrs, gstrs.shape_2, gstrs.shape_3, gstrs.shape_6]
  table_norm
  rfl
theorem gstrs_first_offender_partial (docConj : Bool) (dt : Int) (a : GstrsArgs) (hx : Coded.gstrsExcl docConj dt a) :
    gstrs a = gstrs.docInfo docConj dt a := by
  rw [gstrs_code_table, Coded.gstrs_eq_doc docConj dt a hx]
theorem gstrs_accepts_valid (docConj : Bool) (dt : Int) (a : GstrsArgs) (h : gstrs.valid docConj dt a = true) :
    gstrs a = 0 := by
  rw [gstrs_first_offender_partial docConj dt a (Coded.gstrs_valid_excl docConj dt a h)]
  exact firstOffender_of_allValid h

def gsrfs (dt : Int) (a : GsrfsArgs) : Int :=
  if ((¬(a.trans = NOTRANS) ∧ a.trans ≠ TRANS) ∧ a.trans ≠ CONJ) then (-1)
  else if ((((a.A_nrow ≠ a.A_ncol ∨ a.A_nrow < 0) ∨ a.A_Stype ≠ SLU_NC) ∨ a.A_Dtype ≠ dt) ∨ a.A_Mtype ≠ SLU_GE) then (-2)
  else if ((((a.L_nrow ≠ a.L_ncol ∨ a.L_nrow < 0) ∨ a.L_Stype ≠ SLU_SCP) ∨ a.L_Dtype ≠ dt) ∨ a.L_Mtype ≠ SLU_TRLU) then (-3)
  else if ((((a.U_nrow ≠ a.U_ncol ∨ a.U_nrow < 0) ∨ a.U_Stype ≠ SLU_NCP) ∨ a.U_Dtype ≠ dt) ∨ a.U_Mtype ≠ SLU_TRU) then (-4)
  else if (((a.B_lda < (cmax 0 a.A_nrow) ∨ a.B_Stype ≠ SLU_DN) ∨ a.B_Dtype ≠ dt) ∨ a.B_Mtype ≠ SLU_GE) then (-10)
  else if (((a.X_lda < (cmax 0 a.A_nrow) ∨ a.X_Stype ≠ SLU_DN) ∨ a.X_Dtype ≠ dt) ∨ a.X_Mtype ≠ SLU_GE) then (-11)
  else 0

theorem gsrfs_code_table (dt : Int) (a : GsrfsArgs) : gsrfs dt a = firstOffender (Coded.gsrfs dt a) := by
  simp only [gsrfs, Coded.gsrfs, gsrfs.violates_1, gsrfs.violates_2, gsrfs.violates_3,
    gsrfs.violates_4, gsrfs.violates_10, gsrfs.violates_11]
  table_norm
  rfl
theorem gsrfs_first_offender_partial (dt : Int) (a : GsrfsArgs) (h7 : gsrfs.violates_7 a = false) :
    gsrfs dt a = gsrfs.docInfo dt a := by
  rw [gsrfs_code_table, Coded.gsrfs_eq_doc dt a h7]
theorem gsrfs_accepts_valid (dt : Int) (a : GsrfsArgs) (h : gsrfs.valid dt a = true) : gsrfs dt a = 0 := by
  rw [gsrfs_first_offender_partial dt a (Coded.gsrfs_valid_equed dt a h)]
  exact firstOffender_of_allValid h

def gscon (dt : Int) (a : GsconArgs) : Int :=
  if (¬((a.norm = 49 ∨ lsame a.norm 79 = true)) ∧ ¬(lsame a.norm 73 = true)) then (-1)
  else if ((((a.L_nrow < 0 ∨ a.L_nrow ≠ a.L_ncol) ∨ a.L_Stype ≠ SLU_SCP) ∨ a.L_Dtype ≠ dt) ∨ a.L_Mtype ≠ SLU_TRLU) then (-2)
  else if ((((a.U_nrow < 0 ∨ a.U_nrow ≠ a.U_ncol) ∨ a.U_Stype ≠ SLU_NCP) ∨ a.U_Dtype ≠ dt) ∨ a.U_Mtype ≠ SLU_TRU) then (-3)
  else 0

theorem gscon_first_offender (dt : Int) (a : GsconArgs) : gscon dt a = gscon.docInfo dt a := by
  simp only [gscon, gscon.docInfo, gscon.table, gscon.violates_1, gscon.violates_2, gscon.violates_3]
  table_norm
  rfl
theorem gscon_accepts_valid (dt : Int) (a : GsconArgs) (h : gscon.valid dt a = true) : gscon dt a = 0 := by
  rw [gscon_first_offender]; exact firstOffender_of_allValid h

def gsequ (dt : Int) (a : GsequArgs) : Int :=
  if ((((a.A_nrow < 0 ∨ a.A_ncol < 0) ∨ a.A_Stype ≠ SLU_NC) ∨ a.A_Dtype ≠ dt) ∨ a.A_Mtype ≠ SLU_GE) then (-1)
  else 0

theorem gsequ_first_offender (dt : Int) (a : GsequArgs) : gsequ dt a = gsequ.docInfo dt a := by
  simp only [gsequ, gsequ.docInfo, gsequ.table, gsequ.violates_1]
  table_norm
  rfl
theorem gsequ_accepts_valid (dt : Int) (a : GsequArgs) (h : gsequ.valid dt a = true) : gsequ dt a = 0 := by
  rw [gsequ_first_offender]; exact firstOffender_of_allValid h

/-! ### sp_?trsv (no test mentions the precision; all four accept trans = N, T, C) -/
def trsv (a : TrsvArgs) : Int :=
  if (¬(lsame a.uplo 76 = true) ∧ ¬(lsame a.uplo 85 = true)) then (-1)
  else if ((¬(lsame a.trans 78 = true) ∧ ¬(lsame a.trans 84 = true)) ∧ ¬(lsame a.trans 67 = true)) then (-2)
  else if (¬(lsame a.diag 85 = true) ∧ ¬(lsame a.diag 78 = true)) then (-3)
  else if (a.L_nrow ≠ a.L_ncol ∨ a.L_nrow < 0) then (-4)
  else if (a.U_nrow ≠ a.U_ncol ∨ a.U_nrow < 0) then (-5)
  else 0

theorem trsv_code_table (a : TrsvArgs) : trsv a = firstOffender (Coded.trsv a) := by
  simp only [trsv, Coded.trsv, trsv.violates_1, trsv.violates_2, trsv.violates_3, trsv.shape_4, trsv.shape_5]
  table_norm
  chain_step  -- `uplo`: the code asks L then U, the table U then L
  rfl
theorem trsv_first_offender_partial (dt : Int) (a : TrsvArgs) (hx : Coded.trsvExcl true dt a) :
    trsv a = trsv.docInfo dt a := by
  rw [trsv_code_table, Coded.trsv_eq_doc dt a hx]
theorem trsv_accepts_valid (dt : Int) (a : TrsvArgs) (h : trsv.valid dt a = true) : trsv a = 0 := by
  rw [trsv_first_offender_partial dt a (Coded.trsv_valid_excl dt a h)]
  exact firstOffender_of_allValid h

/-! ### sp_?gemv (no test mentions the precision).  No `info` argument: the value is −(position handed to
    xerbla_) -/
def gemv (a : GemvArgs) : Int :=
  -(if ((¬(lsame a.trans 78 = true) ∧ ¬(lsame a.trans 84 = true)) ∧ ¬(lsame a.trans 67 = true)) then 1
    else if (a.A_nrow < 0 ∨ a.A_ncol < 0) then 3
    else if a.incx = 0 then 5
    else if a.incy = 0 then 8
    else 0)

theorem gemv_code_table (a : GemvArgs) : gemv a = firstOffender (Coded.gemv a) := by
  simp only [gemv, Coded.gemv, gemv.violates_1, gemv.shape_3, gemv.violates_5, gemv.violates_8]
  table_norm
  rfl
theorem gemv_first_offender_partial (dt : Int) (a : GemvArgs) (h3 : gemv.types_3 dt a = false) :
    gemv a = gemv.docInfo dt a := by
  rw [gemv_code_table, Coded.gemv_eq_doc dt a h3]
theorem gemv_accepts_valid (dt : Int) (a : GemvArgs) (h : gemv.valid dt a = true) : gemv a = 0 := by
  rw [gemv_first_offender_partial dt a (Coded.gemv_valid_types dt a h)]
  exact firstOffender_of_allValid h

end Slu.Chain
