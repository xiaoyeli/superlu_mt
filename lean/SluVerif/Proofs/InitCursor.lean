/-
The cursor of `ParallelInit`'s partition loop (`initStep`/`initLoop`): every iteration advances by at least one column,
never past n nor into a relaxed supernode not yet reached, so the loop ends exactly at n and the model's fuel is never
used up.  Then what the loop and `EnqueueRelaxSnode` leave in the shared state: clauses of `initOk`/`initOk2`.
-/
import SluVerif.Proofs.RelaxSnode
import SluVerif.Proofs.PanelWidth
import SluVerif.Proofs.SchedArray
import SluVerif.Proofs.ListLemmas
namespace Slu
open Slu.Gen

def CurOk (n : Nat) (a : InitAcc) : Prop :=
  a.i ≤ n ∧ SnodesOk n a.rs ∧ ∀ r ∈ a.rs, a.i ≤ r.1

/-- the tuple `initStep` destructures: width, relaxed or not, relaxed supernodes still pending, split flag, splits -/
def initChoice (c : PanelCfg) (ukids0 : Array Int) (a : InitAcc) : Nat × Bool × List (Nat × Nat) × Bool × Nat :=
  match a.rs with
  | (f, sz) :: rest =>
    if f == a.i then (sz, true, rest, a.doSplit, 0)
    else ((panelWidth c ukids0 a.i f a.doSplit).1, false, a.rs, (panelWidth c ukids0 a.i f a.doSplit).2)
  | [] => ((panelWidth c ukids0 a.i c.n a.doSplit).1, false, [], (panelWidth c ukids0 a.i c.n a.doSplit).2)

theorem initStep_i (c : PanelCfg) (ukids0 : Array Int) (a : InitAcc) :
    (initStep c ukids0 a).i = a.i + (if (initChoice c ukids0 a).1 == 0 then 1 else (initChoice c ukids0 a).1) := rfl

theorem initStep_state (c : PanelCfg) (ukids0 : Array Int) (a : InitAcc) :
    (initStep c ukids0 a).sh.state =
      a.sh.state.setIfInBounds a.i (if (initChoice c ukids0 a).2.1 then CANGO else UNREADY) := rfl

theorem initStep_fb (c : PanelCfg) (ukids0 : Array Int) (a : InitAcc) :
    (initStep c ukids0 a).sh.fb = a.sh.fb.setIfInBounds a.i a.i := rfl

/-- the queue is filled by `EnqueueRelaxSnode` afterwards; `spin` is not written during set-up -/
theorem initStep_frame (c : PanelCfg) (ukids0 : Array Int) (a : InitAcc) :
    (initStep c ukids0 a).sh.queue = a.sh.queue ∧ (initStep c ukids0 a).sh.head = a.sh.head
      ∧ (initStep c ukids0 a).sh.tail = a.sh.tail ∧ (initStep c ukids0 a).sh.count = a.sh.count
      ∧ (initStep c ukids0 a).sh.spin = a.sh.spin :=
  ⟨rfl, rfl, rfl, rfl, rfl⟩

/-- `max`: a relaxed supernode may be wider than panel_size -/
theorem initChoice_ok (c : PanelCfg) (ukids0 : Array Int) (a : InitAcc) (hps : 1 ≤ c.panelSize) (h : CurOk c.n a)
    (hi : a.i < c.n) :
    1 ≤ (initChoice c ukids0 a).1 ∧ a.i + (initChoice c ukids0 a).1 ≤ c.n ∧
    (initChoice c ukids0 a).1 ≤ max c.panelSize (c.n - a.i) ∧
    SnodesOk c.n (initChoice c ukids0 a).2.2.1 ∧
    ∀ r ∈ (initChoice c ukids0 a).2.2.1, a.i + (initChoice c ukids0 a).1 ≤ r.1 := by
  obtain ⟨_, ⟨hpw, hin⟩, hge⟩ := h
  unfold initChoice
  split
  · next f sz rest hrs =>
    rw [hrs] at hpw hin hge
    have hf := hin (f, sz) List.mem_cons_self
    have hgf := hge (f, sz) List.mem_cons_self
    rw [List.pairwise_cons] at hpw
    split
    · next hfi =>
      -- the cursor is on a relaxed supernode's first column: that supernode is the panel
      cases beq_iff_eq.1 hfi
      have hmax : sz ≤ max c.panelSize (c.n - a.i) := Nat.le_trans (Nat.le_sub_of_add_le' hf.2) (Nat.le_max_right ..)
      exact ⟨hf.1, hf.2, hmax, ⟨hpw.2, fun r hr => hin r (List.mem_cons_of_mem _ hr)⟩, hpw.1⟩
    · next hfi =>
      have hfl : a.i < f := Nat.lt_of_le_of_ne hgf fun e => hfi (beq_iff_eq.2 e.symm)
      obtain ⟨hw1, hwn, hwf, hwp, -⟩ := panelWidth_bounds c ukids0 a.i f a.doSplit hps hi hfl
      refine ⟨hw1, hwn, Nat.le_trans hwp (Nat.le_max_left ..), hrs ▸ ⟨List.pairwise_cons.2 hpw, hin⟩,
        fun r hr => ?_⟩
      rcases List.mem_cons.mp (hrs ▸ hr) with rfl | hr
      · exact hwf
      · exact Nat.le_trans hwf (Nat.le_trans (Nat.le_add_right ..) (hpw.1 r hr))
  · obtain ⟨hw1, hwn, -, hwp, -⟩ := panelWidth_bounds c ukids0 a.i c.n a.doSplit hps hi hi
    exact ⟨hw1, hwn, Nat.le_trans hwp (Nat.le_max_left ..), ⟨List.Pairwise.nil, fun _ h => nomatch h⟩,
      fun _ h => nomatch h⟩

theorem initStep_cursor (c : PanelCfg) (ukids0 : Array Int) (a : InitAcc) (hps : 1 ≤ c.panelSize)
    (h : CurOk c.n a) (hi : a.i < c.n) :
    a.i < (initStep c ukids0 a).i ∧ (initStep c ukids0 a).i ≤ a.i + max c.panelSize (c.n - a.i) ∧ CurOk c.n (initStep c ukids0 a) := by
  obtain ⟨h1, h2, h3, h4, h5⟩ := initChoice_ok c ukids0 a hps h hi
  -- the model's fall-back for a zero width does not fire
  have hi' : (initStep c ukids0 a).i = a.i + (initChoice c ukids0 a).1 := by
    rw [initStep_i, if_neg fun e => absurd (beq_iff_eq.1 e) (Nat.ne_of_gt h1)]
  exact ⟨by omega, by omega, by omega, h4, fun r hr => hi' ▸ h5 r hr⟩

theorem CurOk.stop {n : Nat} {a : InitAcc} (h : CurOk n a) (hi : ¬ a.i < n) : a.i = n ∧ a.rs = [] := by
  refine ⟨Nat.le_antisymm h.1 (Nat.le_of_not_lt hi), ?_⟩
  cases hrs : a.rs with
  | nil => rfl
  | cons r rest =>
    have h1 := h.2.1.2 r (hrs ▸ List.mem_cons_self)
    have h2 := h.2.2 r (hrs ▸ List.mem_cons_self)
    omega

theorem initLoop_cursor (c : PanelCfg) (ukids0 : Array Int) (hps : 1 ≤ c.panelSize) :
    ∀ fuel a, CurOk c.n a → c.n ≤ fuel + a.i →
      (initLoop c ukids0 fuel a).i = c.n ∧ (initLoop c ukids0 fuel a).rs = [] := by
  intro fuel
  induction fuel with
  | zero => exact fun a h hf => h.stop (by omega)
  | succ f ih =>
    intro a h hf
    unfold initLoop
    split
    · next hi =>
      have S := initStep_cursor c ukids0 a hps h hi
      exact ih _ S.2.2 (by omega)
    · next hi => exact h.stop hi

theorem parallelInit_loop_covers (c : PanelCfg) (ukids0 : Array Int) (sh0 : Sh) (hps : 1 ≤ c.panelSize)
    (h : PostOrd c.n c.etree) :
    let a := initLoop c ukids0 c.n { sh := sh0, i := 0, rs := relaxSnode c.n c.relax c.etree, doSplit := false }
    a.i = c.n ∧ a.rs = [] :=
  initLoop_cursor c ukids0 hps _ _ ⟨Nat.zero_le _, relaxSnode_ok c.n c.relax c.etree h, fun _ _ => Nat.zero_le _⟩
    (Nat.le_refl _)

theorem initLoop_rel (c : PanelCfg) (ukids0 : Array Int) (R : InitAcc → InitAcc → Prop) (h0 : ∀ a, R a a)
    (hs : ∀ a b, R (initStep c ukids0 a) b → R a b) : ∀ fuel a, R a (initLoop c ukids0 fuel a) := by
  intro fuel
  induction fuel with
  | zero => exact h0
  | succ f ih =>
    intro a
    unfold initLoop
    split
    · exact hs a _ (ih _)
    · exact h0 a

theorem initLoop_frame (c : PanelCfg) (ukids0 : Array Int) :
    ∀ fuel a, (initLoop c ukids0 fuel a).sh.queue = a.sh.queue ∧ (initLoop c ukids0 fuel a).sh.head = a.sh.head
      ∧ (initLoop c ukids0 fuel a).sh.tail = a.sh.tail ∧ (initLoop c ukids0 fuel a).sh.count = a.sh.count
      ∧ (initLoop c ukids0 fuel a).sh.spin = a.sh.spin :=
  initLoop_rel c ukids0 (fun a b => b.sh.queue = a.sh.queue ∧ b.sh.head = a.sh.head ∧ b.sh.tail = a.sh.tail
    ∧ b.sh.count = a.sh.count ∧ b.sh.spin = a.sh.spin) (fun _ => ⟨rfl, rfl, rfl, rfl, rfl⟩) fun _ _ h => h

theorem initLoop_sizes (c : PanelCfg) {ukids0 : Array Int} :
    ∀ fuel a, (initLoop c ukids0 fuel a).sh.state.size = a.sh.state.size
      ∧ (initLoop c ukids0 fuel a).sh.ukids.size = a.sh.ukids.size
      ∧ (initLoop c ukids0 fuel a).sh.fb.size = a.sh.fb.size :=
  initLoop_rel c ukids0 (fun a b => b.sh.state.size = a.sh.state.size ∧ b.sh.ukids.size = a.sh.ukids.size
    ∧ b.sh.fb.size = a.sh.fb.size) (fun _ => ⟨rfl, rfl, rfl⟩)
    fun _ _ h => ⟨h.1.trans Array.size_setIfInBounds, h.2.1.trans Array.size_setIfInBounds,
      h.2.2.trans Array.size_setIfInBounds⟩

theorem enqueue_fold (g : Sh → (Nat × Nat) → Sh)
    (hg : ∀ sh x, (g sh x).head = sh.head ∧ (g sh x).tail = sh.tail + 1 ∧ (g sh x).count = sh.count + 1
      ∧ (g sh x).queue.size = sh.queue.size) (L : List (Nat × Nat)) : ∀ sh : Sh,
    (L.foldl g sh).head = sh.head ∧ (L.foldl g sh).tail = sh.tail + L.length
      ∧ (L.foldl g sh).count = sh.count + (L.length : Int) ∧ (L.foldl g sh).queue.size = sh.queue.size := by
  induction L with
  | nil =>
    intro sh
    simp
  | cons x xs ih =>
    intro sh
    simp only [List.foldl_cons, List.length_cons]
    obtain ⟨ih1, ih2, ih3, ih4⟩ := ih (g sh x)
    obtain ⟨g1, g2, g3, g4⟩ := hg sh x
    refine ⟨ih1.trans g1, by omega, ?_, ih4.trans g4⟩
    omega

/-- one step of `EnqueueRelaxSnode` -/
def enqueueStep (sh : Sh) (x : Nat × Nat) : Sh :=
  { sh with queue := sh.queue.setIfInBounds sh.tail x.1, tail := sh.tail + 1, count := sh.count + 1,
            tasksRemain := sh.tasksRemain + 1 }

/-- `ParallelInit` ends with `EnqueueRelaxSnode`, run from the state `sh1` the partition loop leaves -/
theorem parallelInit_stage (c : PanelCfg) : ∃ sh1 : Sh,
    parallelInit c = (relaxSnode c.n c.relax c.etree).foldl enqueueStep sh1 ∧
    (sh1.queue.size = c.n ∧ sh1.head = 0 ∧ sh1.tail = 0 ∧ sh1.count = 0) ∧
    sh1.state.size = c.n + 1 ∧ sh1.ukids.size = c.n + 1 ∧ sh1.fb.size = c.n + 1 ∧ sh1.spin.size = c.n := by
  -- `rfl`: the model's `fun sh (f, _) => …` is `enqueueStep` up to eta for pairs
  refine ⟨_, rfl, ?_, ?_⟩
  · exact ⟨(congrArg Array.size (initLoop_frame c _ c.n _).1).trans Array.size_replicate,
      (initLoop_frame c _ c.n _).2.1,
      (initLoop_frame c _ c.n _).2.2.1,
      (initLoop_frame c _ c.n _).2.2.2.1⟩
  · exact ⟨Array.size_setIfInBounds.trans ((initLoop_sizes c c.n _).1.trans Array.size_replicate),
      (initLoop_sizes c c.n _).2.1.trans ((foldl_keeps Array.size _ (fun _ _ => Array.size_setIfInBounds)).trans Array.size_replicate),
      (initLoop_sizes c c.n _).2.2.trans Array.size_replicate,
      (congrArg Array.size (initLoop_frame c _ c.n _).2.2.2.2).trans Array.size_replicate⟩

/-- the queue clauses of `initOk` (slots, `head ≤ tail`, `count`) -/
theorem parallelInit_queue_cursors (c : PanelCfg) :
    (parallelInit c).queue.size = c.n ∧ (parallelInit c).head = 0
      ∧ (parallelInit c).tail = (relaxSnode c.n c.relax c.etree).length
      ∧ (parallelInit c).count = (((parallelInit c).tail : Int) - ((parallelInit c).head : Int)) := by
  obtain ⟨sh1, e, ⟨q, h, t, cnt⟩, -⟩ := parallelInit_stage c
  obtain ⟨e1, e2, e3, e4⟩ :=
    enqueue_fold enqueueStep (fun _ _ => ⟨rfl, rfl, rfl, Array.size_setIfInBounds⟩)
      (relaxSnode c.n c.relax c.etree) sh1
  rw [← e] at e1 e2 e3 e4
  rw [e1, e2, e3, e4, q, h, t, cnt]
  exact ⟨rfl, rfl, Nat.zero_add _, by simp⟩

/-- the array-size clauses of `initOk` and `initOk2` -/
theorem parallelInit_sizes (c : PanelCfg) :
    (parallelInit c).state.size = c.n + 1 ∧ (parallelInit c).ukids.size = c.n + 1
      ∧ (parallelInit c).fb.size = c.n + 1 ∧ (parallelInit c).spin.size = c.n := by
  obtain ⟨sh1, e, -, s1, s2, s3, s4⟩ := parallelInit_stage c
  rw [e]
  exact ⟨(congrArg Array.size (foldl_keeps Sh.state enqueueStep (fun _ _ => rfl))).trans s1,
    (congrArg Array.size (foldl_keeps Sh.ukids enqueueStep (fun _ _ => rfl))).trans s2,
    (congrArg Array.size (foldl_keeps Sh.fb enqueueStep (fun _ _ => rfl))).trans s3,
    (congrArg Array.size (foldl_keeps Sh.spin enqueueStep (fun _ _ => rfl))).trans s4⟩

/-- the leading columns of the panels the loop creates -/
def cursors (c : PanelCfg) (ukids0 : Array Int) : Nat → InitAcc → List Nat
  | 0, _ => []
  | fuel + 1, a => if a.i < c.n then a.i :: cursors c ukids0 fuel (initStep c ukids0 a) else []

/-- a field written only at the cursor (`hw`): untouched below it; at each cursor position `Q` holds of what was written -/
theorem initLoop_written (c : PanelCfg) (ukids0 : Array Int) (hps : 1 ≤ c.panelSize) (f : Sh → Array Nat)
    (v : InitAcc → Nat) (Q : Nat → Nat → Prop)
    (hw : ∀ a, f (initStep c ukids0 a).sh = (f a.sh).setIfInBounds a.i (v a)) (hQ : ∀ a, Q a.i (v a)) :
    ∀ fuel a, CurOk c.n a → (f a.sh).size = c.n + 1 →
      (∀ p, p < a.i → getN (f (initLoop c ukids0 fuel a).sh) p = getN (f a.sh) p)
      ∧ ∀ p ∈ cursors c ukids0 fuel a, Q p (getN (f (initLoop c ukids0 fuel a).sh) p) := by
  intro fuel
  induction fuel with
  | zero => exact fun a _ _ => ⟨fun _ _ => rfl, fun _ h => nomatch h⟩
  | succ fuel ih =>
    intro a h hs
    unfold initLoop cursors
    split
    · next hi =>
      have S := initStep_cursor c ukids0 a hps h hi
      have hget : ∀ k, getN (f (initStep c ukids0 a).sh) k = if k = a.i then v a else getN (f a.sh) k := fun k => by
        rw [hw]
        exact getN_set _ _ _ _ (by omega)
      have hs' : (f (initStep c ukids0 a).sh).size = c.n + 1 := by
        rw [hw, Array.size_setIfInBounds]
        exact hs
      have I := ih (initStep c ukids0 a) S.2.2 hs'
      refine ⟨fun p hp => ?_, fun p hp => ?_⟩
      · rw [I.1 p (by omega), hget, if_neg (by omega)]
      · rcases List.mem_cons.mp hp with rfl | hp
        · rw [I.1 _ S.1, hget, if_pos rfl]
          exact hQ a
        · exact I.2 p hp
    · exact ⟨fun _ _ => rfl, fun _ h => nomatch h⟩

/-- `fb_cols[p] = p` at every leading column the loop creates (clause of `initOk2`) -/
theorem initLoop_fb (c : PanelCfg) (ukids0 : Array Int) (hps : 1 ≤ c.panelSize) :
    ∀ fuel a, CurOk c.n a → a.sh.fb.size = c.n + 1 → (∀ p, p < a.i → getN (initLoop c ukids0 fuel a).sh.fb p = getN a.sh.fb p)
      ∧ ∀ p ∈ cursors c ukids0 fuel a, getN (initLoop c ukids0 fuel a).sh.fb p = p :=
  initLoop_written c ukids0 hps (·.fb) (·.i) (fun p x => x = p) (initStep_fb c ukids0) fun _ => rfl

/-- clause of `initOk`: CANGO for a relaxed supernode, UNREADY for a regular panel -/
theorem initLoop_state (c : PanelCfg) (ukids0 : Array Int) (hps : 1 ≤ c.panelSize) :
    ∀ fuel a, CurOk c.n a → a.sh.state.size = c.n + 1 →
      (∀ p, p < a.i → getN (initLoop c ukids0 fuel a).sh.state p = getN a.sh.state p)
      ∧ ∀ p ∈ cursors c ukids0 fuel a, BUSY < getN (initLoop c ukids0 fuel a).sh.state p
          ∧ getN (initLoop c ukids0 fuel a).sh.state p ≤ UNREADY :=
  initLoop_written c ukids0 hps (·.state) (fun a => if (initChoice c ukids0 a).2.1 then CANGO else UNREADY)
    (fun _ x => BUSY < x ∧ x ≤ UNREADY) (initStep_state c ukids0) fun a => by split <;> decide

/-- no column leads two panels -/
theorem cursors_increasing (c : PanelCfg) (ukids0 : Array Int) (hps : 1 ≤ c.panelSize) :
    ∀ fuel a, CurOk c.n a → (cursors c ukids0 fuel a).Pairwise (· < ·)
      ∧ ∀ p ∈ cursors c ukids0 fuel a, a.i ≤ p ∧ p < c.n := by
  intro fuel
  induction fuel with
  | zero =>
    intro a _
    simp [cursors]
  | succ f ih =>
    intro a h
    unfold cursors
    split
    · rename_i hi
      have S := initStep_cursor c ukids0 a hps h hi
      have I := ih (initStep c ukids0 a) S.2.2
      refine ⟨?_, ?_⟩
      · rw [List.pairwise_cons]
        refine ⟨fun p hp => ?_, I.1⟩
        have := (I.2 p hp).1
        omega
      · intro p hp
        rcases List.mem_cons.mp hp with hp | hp
        · subst hp
          omega
        · have := I.2 p hp
          omega
    · simp

end Slu
