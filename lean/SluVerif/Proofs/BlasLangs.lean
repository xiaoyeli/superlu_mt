/- ?langs (SRC/?langs.c): the max-abs / one / infinity norm of the dense matrix the store denotes -/
import SluVerif.Proofs.BlasGemv
import SluVerif.Proofs.FoldMax
import Mathlib.Algebra.Order.BigOperators.Group.Finset
namespace Slu.Blas
open Finset

section MaxLoop
variable {β : Type} [LinearOrder β]

/-- `v = 0; for k: v = SUPERLU_MAX(v, g k)`; the start value 0 is dominated because `G ≥ 0`.  `g` is what the loop
reads, `G` what the statement is about; they agree for `k < n`. -/
theorem foldl_max_of_nonneg [Zero β] (g G : Nat → β) (n : Nat) (hn : 0 < n) (hG : ∀ k < n, G k = g k)
    (h0 : ∀ k < n, 0 ≤ G k) :
    (∀ k < n, G k ≤ (List.range n).foldl (fun v k => max v (g k)) 0) ∧
    ∃ k < n, G k = (List.range n).foldl (fun v k => max v (g k)) 0 := by
  obtain ⟨hm, hle⟩ := (foldl_max_eq_iff 0 _ ((List.range n).map g)).mp List.foldl_map
  have hle' : ∀ k < n, G k ≤ (List.range n).foldl (fun v k => max v (g k)) 0 := fun k hk =>
    hG k hk ▸ hle _ (List.mem_cons_of_mem _ (List.mem_map.mpr ⟨k, List.mem_range.mpr hk, rfl⟩))
  refine ⟨hle', ?_⟩
  rcases List.mem_cons.mp hm with e | h
  · exact ⟨0, hn, le_antisymm (hle' 0 hn) (e.trans_le (h0 0 hn))⟩
  · obtain ⟨k, hk, e⟩ := List.mem_map.mp h
    exact ⟨k, List.mem_range.mp hk, (hG k (List.mem_range.mp hk)).trans e⟩

theorem foldl_max_nested (c : Nat → Nat) (g : Nat → Nat → β) (a : β) (n : Nat) {m : β}
    (hm : m = (List.range n).foldl (fun v j => (List.range (c j)).foldl (fun v k => max v (g j k)) v) a) :
    a ≤ m ∧ (∀ j < n, ∀ k < c j, g j k ≤ m) ∧ (m = a ∨ ∃ j < n, ∃ k < c j, g j k = m) := by
  subst hm
  have e : (List.range n).foldl (fun v j => (List.range (c j)).foldl (fun v k => max v (g j k)) v) a
      = ((List.range n).flatMap fun j => (List.range (c j)).map (g j)).foldl max a := by
    rw [List.foldl_flatMap]
    simp only [List.foldl_map]
  have mem : ∀ {b}, b ∈ ((List.range n).flatMap fun j => (List.range (c j)).map (g j)) ↔
      ∃ j < n, ∃ k < c j, g j k = b := by
    intro b
    simp only [List.mem_flatMap, List.mem_map, List.mem_range]
  rw [e]
  obtain ⟨hm, hle⟩ := (foldl_max_eq_iff a _ _).mp rfl
  refine ⟨hle a List.mem_cons_self,
    fun j hj k hk => hle _ (List.mem_cons_of_mem _ (mem.mpr ⟨j, hj, k, hk, rfl⟩)), ?_⟩
  rcases List.mem_cons.mp hm with e | h
  · exact Or.inl e
  · exact Or.inr (mem.mp h)
end MaxLoop

section Dense
variable {α : Type} [CommRing α]

/-- no repeated row index inside a column -/
def NCMat.nodupCols (A : NCMat α) : Prop :=
  ∀ j < A.ncol.toNat, ∀ k < A.clen j, ∀ k' < A.clen j, A.ri (A.cp j + k) = A.ri (A.cp j + k') → k = k'

omit [CommRing α] in
theorem NCMat.sum_ri_single {γ : Type} [AddCommMonoid γ] (A : NCMat α) (hnd : A.nodupCols) (j : Nat)
    (hj : j < A.ncol.toNat) (k : Nat) (hk : k < A.clen j) (g : Nat → γ) :
    (∑ k' ∈ range (A.clen j), if A.ri (A.cp j + k') = A.ri (A.cp j + k) then g k' else 0) = g k := by
  rw [sum_eq_single_of_mem k (mem_range.mpr hk)
    fun k' hk' hne => if_neg fun e => hne (hnd j hj k' (mem_range.mp hk') k hk e), if_pos rfl]

theorem NCMat.dense_of_ri (A : NCMat α) (hnd : A.nodupCols) (j : Nat) (hj : j < A.ncol.toNat)
    (k : Nat) (hk : k < A.clen j) : A.dense (A.ri (A.cp j + k)) j = A.nz (A.cp j + k) :=
  A.sum_ri_single hnd j hj k hk fun k => A.nz (A.cp j + k)

theorem NCMat.dense_cases (A : NCMat α) (hnd : A.nodupCols) (i j : Nat) (hj : j < A.ncol.toNat) :
    (A.dense i j = 0 ∧ ∀ k < A.clen j, A.ri (A.cp j + k) ≠ i) ∨
    ∃ k < A.clen j, A.ri (A.cp j + k) = i ∧ A.dense i j = A.nz (A.cp j + k) := by
  by_cases h : ∃ k < A.clen j, A.ri (A.cp j + k) = i
  · obtain ⟨k, hk, rfl⟩ := h
    exact .inr ⟨k, hk, rfl, A.dense_of_ri hnd j hj k hk⟩
  · have h' : ∀ k < A.clen j, A.ri (A.cp j + k) ≠ i := fun k hk e => h ⟨k, hk, e⟩
    exact .inl ⟨sum_eq_zero fun k hk => if_neg (h' k (mem_range.mp hk)), h'⟩

end Dense

section Norms
variable {α β : Type} [CommRing α] [AddCommMonoid β]

theorem absf_dense_eq_sum (absf : α → β) (habs0 : absf 0 = 0) (A : NCMat α) (hnd : A.nodupCols)
    (i j : Nat) (hj : j < A.ncol.toNat) :
    absf (A.dense i j)
      = ∑ k ∈ range (A.clen j), if A.ri (A.cp j + k) = i then absf (A.nz (A.cp j + k)) else 0 := by
  rcases A.dense_cases hnd i j hj with ⟨h0, hne⟩ | ⟨k, hk, e, hd⟩
  · rw [h0, habs0]
    exact (sum_eq_zero fun k hk => if_neg (hne k (mem_range.mp hk))).symm
  · rw [hd, ← e]
    exact (A.sum_ri_single hnd j hj k hk fun k => absf (A.nz (A.cp j + k))).symm

theorem sum_absf_dense_col (absf : α → β) (habs0 : absf 0 = 0) (A : NCMat α) (hnd : A.nodupCols)
    (j : Nat) (hj : j < A.ncol.toNat) (m : Nat) (hr : ∀ k < A.clen j, A.ri (A.cp j + k) < m) :
    ∑ i ∈ range m, absf (A.dense i j) = ∑ k ∈ range (A.clen j), absf (A.nz (A.cp j + k)) := by
  rw [sum_congr rfl fun i _ => absf_dense_eq_sum absf habs0 A hnd i j hj, sum_comm]
  refine sum_congr rfl fun k hk => ?_
  rw [sum_ite_eq, if_pos (mem_range.mpr (hr k (mem_range.mp hk)))]

theorem colAbsSum_eq_sum (absf : α → β) (A : NCMat α) (j : Nat) :
    colAbsSum absf A j = ∑ k ∈ range (A.clen j), absf (A.nz (A.cp j + k)) := by
  unfold colAbsSum
  rw [foldl_add_eq_sum (fun k => absf (A.nz (A.cp j + k))) 0, zero_add]

theorem rd_rowAbsSums (absf : α → β) (A : NCMat α) (hrows : A.rowsOk) :
    (rowAbsSums absf A).size = A.nrow.toNat ∧
    ∀ q, rd (rowAbsSums absf A) q
      = ∑ j ∈ range A.ncol.toNat, ∑ k ∈ range (A.clen j),
          if A.ri (A.cp j + k) = q then absf (A.nz (A.cp j + k)) else 0 := by
  obtain ⟨k1, k2⟩ := rd_foldl_additive
    (fun w j => (List.range (A.clen j)).foldl
        (fun w k => wr w (A.ri (A.cp j + k)) (rd w (A.ri (A.cp j + k)) + absf (A.nz (A.cp j + k)))) w)
    (fun j q => ∑ k ∈ range (A.clen j), if A.ri (A.cp j + k) = q then absf (A.nz (A.cp j + k)) else 0)
    A.ncol.toNat (Array.replicate A.nrow.toNat (0 : β))
    (by
      intro y' j hj hs
      refine ⟨?_, fun q => ?_⟩
      · rw [size_foldl_acc (fun k => A.ri (A.cp j + k)) (fun k => absf (A.nz (A.cp j + k))) y' _, hs]
      · exact rd_foldl_acc (fun k => A.ri (A.cp j + k)) (fun k => absf (A.nz (A.cp j + k))) y' _
          (fun k hk => by
            have := hrows j hj k hk
            rw [hs]
            simpa using this) q)
  refine ⟨k1.trans (by simp), fun q => (k2 q).trans ?_⟩
  rw [rd_replicate, zero_add]

theorem rd_rowAbsSums_dense (absf : α → β) (habs0 : absf 0 = 0) (A : NCMat α) (hrows : A.rowsOk)
    (hnd : A.nodupCols) (i : Nat) :
    rd (rowAbsSums absf A) i = ∑ j ∈ range A.ncol.toNat, absf (A.dense i j) := by
  rw [(rd_rowAbsSums absf A hrows).2 i]
  apply sum_congr rfl
  intro j hj
  rw [absf_dense_eq_sum absf habs0 A hnd i j (mem_range.mp hj)]

end Norms

theorem min_ne_zero_of_pos {a b : Int} {m n : Nat} (ha : a = m) (hb : b = n) (hm0 : 0 < m) (hn0 : 0 < n) :
    ¬ (min a b = 0) := by
  omega

end Slu.Blas
