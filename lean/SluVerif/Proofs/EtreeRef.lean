/- the executable reference `etreeRef` (tabulated naive symbolic elimination) satisfies `IsEtree`. -/
import SluVerif.Proofs.Fill
namespace Slu.Pre

theorem tabGet_ofFn {nr nc : Nat} (f : Nat → Nat → Bool) {a b : Nat} (ha : a < nr) (hb : b < nc) :
    tabGet (Array.ofFn (n := nr) fun a => Array.ofFn (n := nc) fun b => f a.1 b.1) a b = f a b := by
  unfold tabGet
  simp [ha, hb]

theorem tabGet_tabulate (n : Nat) (f : Nat → Nat → Bool) {a b : Nat} (ha : a < n) (hb : b < n) :
    tabGet (tabulate n f) a b = f a b := tabGet_ofFn f ha hb

theorem tabulate_congr (n : Nat) (f g : Nat → Nat → Bool) (h : ∀ a b, a < n → b < n → f a b = g a b) :
    tabulate n f = tabulate n g := by
  unfold tabulate
  congr 1
  funext a
  congr 1
  funext b
  exact h a.1 b.1 a.2 b.2

theorem elimStep_get (n : Nat) (T : BTab) (j : Nat) {a b : Nat} (ha : a < n) (hb : b < n) :
    tabGet (elimStep n T j) a b = (tabGet T a b ||
      (decide (j < a) && decide (j < b) && decide (a ≠ b) && tabGet T a j && tabGet T j b)) := by
  unfold elimStep
  rw [tabGet_tabulate n _ ha hb]

theorem tabGet_fillTab (n : Nat) (adj : Nat → Nat → Bool) {a b : Nat} (ha : a < n) (hb : b < n) :
    tabGet (fillTab n adj) a b = fill adj n a b :=
  foldl_range_inv (elimStep n) (fun k T => ∀ a b, a < n → b < n → tabGet T a b = fill adj k a b)
    (tabulate n adj) n
    (fun a b ha hb => tabGet_tabulate n adj ha hb)
    (fun k T hk ih a b ha hb => by
      rw [elimStep_get n T k ha hb, ih a b ha hb, ih a k ha hk, ih k b hk hb]
      rfl) a b ha hb

theorem etreeRef_isEtree (n : Nat) (adj : Nat → Nat → Bool) :
    IsEtree adj n (getN (etreeRef n adj)) := by
  intro j hj
  unfold etreeRef etreeOfFill
  rw [getN_ofFn hj]
  cases hf : (List.range' (j + 1) (n - (j + 1))).find? (fun i => tabGet (fillTab n adj) i j) with
  | some i =>
      obtain ⟨h3, hi, h4⟩ := List.find?_range'_eq_some.1 hf
      obtain ⟨h1, h2⟩ := List.mem_range'_1.1 hi
      have hin : i < n := by omega
      simp only
      refine ⟨h1, Nat.le_of_lt hin, fun _ => ?_, fun i' hi1 hi2 => ?_⟩
      · rw [← tabGet_fillTab n adj hin hj]
        exact h3
      · rw [← tabGet_fillTab n adj (by omega) hj]
        simpa using h4 i' hi1 hi2
  | none =>
      have h4 := List.find?_range'_eq_none.1 hf
      simp only
      refine ⟨hj, Nat.le_refl _, fun h => absurd h (Nat.lt_irrefl _), fun i' hi1 hi2 => ?_⟩
      rw [← tabGet_fillTab n adj hi2 hj]
      simpa using h4 i' hi1 (by omega)

theorem etreeRef_size (n : Nat) {adj : Nat → Nat → Bool} : (etreeRef n adj).size = n := by
  simp [etreeRef, etreeOfFill]

theorem etreeRef_congr (n : Nat) (f g : Nat → Nat → Bool) (h : ∀ a b, a < n → b < n → f a b = g a b) :
    etreeRef n f = etreeRef n g := by
  unfold etreeRef fillTab
  rw [tabulate_congr n f g h]

theorem eq_etreeRef_of_isEtree {n : Nat} {adj : Nat → Nat → Bool} {p : Array Nat} (hs : p.size = n)
    (he : IsEtree adj n (getN p)) : p = etreeRef n adj := by
  apply Array.ext
  · rw [hs, etreeRef_size]
  · intro i h1 h2
    have hi : i < n := by omega
    have := he.unique (etreeRef_isEtree n adj) i hi
    rw [getN_eq_getElem h1, getN_eq_getElem h2] at this
    exact this

end Slu.Pre
