/- running maximum / minimum of a list from a start value, characterised through core's `List.max?` / `List.min?` -/
import Mathlib.Order.MinMax

namespace Slu
variable {β : Type} [LinearOrder β]

theorem foldl_max_eq_iff (a m : β) (l : List β) :
    l.foldl max a = m ↔ m ∈ a :: l ∧ ∀ b ∈ a :: l, b ≤ m := by
  rw [← List.max?_eq_some_iff, List.max?_cons', Option.some.injEq]

theorem foldl_min_eq_iff (a m : β) (l : List β) :
    l.foldl min a = m ↔ m ∈ a :: l ∧ ∀ b ∈ a :: l, m ≤ b := by
  rw [← List.min?_eq_some_iff, List.min?_cons', Option.some.injEq]

end Slu
