/- `?readmt`: title line, entries of a column, columns. -/
import SluVerif.Proofs.ReadSlice
import SluVerif.Proofs.ReadDec
namespace Slu.Read

/-- `scanf("%d")` only looks at its input after white space. -/
theorem scanInt_congr {s s' : Str} (h : skipSpace s = skipSpace s') : scanInt s = scanInt s' := by
  unfold scanInt
  rw [h]

theorem mtTitle_line {t : Str} (ht : NoNL t) (hl : t.length < 80) (s : Str) : mtTitle (t ++ '\n' :: s) = some s := by
  rw [mtTitle, takeUntil_append (p := (· == '\n')) ht (by decide)]
  simp only [if_neg (Nat.not_le.mpr hl)]
  rw [← List.drop_drop, List.drop_left]
  rfl

/-- White space before a token may be empty, a separator between two tokens not (`scanf` would read one number);
`mid2` is asked for even when `cplx = false`; `row`: the 1-based index is read by `%d`. -/
structure MTEntry.WF (cplx : Bool) (e : MTEntry) : Prop where
  pre : WsAll e.pre
  row : e.row + 1 < 2147483648
  mid : WsAll e.mid ∧ e.mid ≠ []
  re : e.re.WFE
  mid2 : WsAll e.mid2 ∧ e.mid2 ≠ []
  im : cplx = true → e.im.WFE
  post : WsAll e.post ∧ e.post ≠ []

/-- `s` is known up to leading white space only: the `\n` ending the `scanf` format has eaten what separates the
entries, and `scanf("%d")` does not see it (`scanInt_congr`). -/
theorem mtEntries_written (cplx : Bool) (nonz : Int) :
    ∀ (es : List MTEntry) (lasta : Nat) (rest s : Str),
      (∀ e ∈ es, e.WF cplx) → ((lasta + es.length : Nat) : Int) ≤ nonz →
      skipSpace s = skipSpace ((es.map (MTEntry.text cplx)).flatten ++ rest) →
      ∃ r', mtEntries cplx nonz es.length (lasta : Int) s =
          some (es.map (fun e => (e.row : Int)), (es.map (MTEntry.values cplx)).flatten,
            ((lasta + es.length : Nat) : Int), r') ∧
        skipSpace r' = skipSpace rest := by
  intro es
  induction es with
  | nil =>
    intro lasta rest s _ _ hs
    exact ⟨s, by simp [mtEntries], by simpa using hs⟩
  | cons e es ih =>
    intro lasta rest s hwf hle hs
    have he := hwf e (by simp)
    have hlt : ¬ ((lasta : Int) ≥ nonz) := by
      simp only [List.length_cons] at hle
      omega
    -- `tl`: from the white space after this entry on; `im`: the imaginary part with the white space before it
    generalize htl : e.post ++ ((es.map (MTEntry.text cplx)).flatten ++ rest) = tl
    generalize him : (if cplx then e.mid2 ++ e.im.text else []) = im
    have htlw : WsHead tl := htl ▸ wsHead_append he.post
    have himw : WsHead (im ++ tl) := by
      subst him
      cases cplx
      · exact htlw
      · rw [if_pos rfl, List.append_assoc]
        exact wsHead_append he.mid2
    obtain ⟨r', hr1, hr2⟩ := ih (lasta + 1) rest (skipSpace tl)
      (fun x hx => hwf x (by simp [hx])) (by simp only [List.length_cons] at hle; omega)
      (by rw [skipSpace_idem, ← htl, skipSpace_ws he.post.1])
    have h1 : scanInt s = some (((e.row + 1 : Nat) : Int), e.mid ++ (e.re.text ++ (im ++ tl))) := by
      rw [scanInt_congr hs, ← htl, ← him]
      simp only [List.map_cons, List.flatten_cons, MTEntry.text, List.append_assoc]
      exact scanInt_digits he.pre he.row (wsHead_append he.mid).noDig
    have h2 := scanFloat_text he.mid.1 e.re he.re (im ++ tl) himw
    have hrow : inInt32 (e.row : Int) = true := inInt32_ofNat (by have := he.row; omega)
    have hrow' : ((e.row + 1 : Nat) : Int) - 1 = (e.row : Int) := by omega
    have hl1 : ((lasta : Int) + 1) = ((lasta + 1 : Nat) : Int) := by omega
    have hfin : ((lasta + 1 + es.length : Nat) : Int) = ((lasta + (e :: es).length : Nat) : Int) := by
      simp only [List.length_cons]
      omega
    refine ⟨r', ?_, hr2⟩
    simp only [List.length_cons, mtEntries, if_neg hlt, h1, hrow, h2, hl1, hrow']
    subst him
    cases cplx with
    | false =>
      simp only [Bool.false_eq_true, if_false, List.nil_append, hr1, hfin]
      simp [MTEntry.values]
    | true =>
      simp only [if_true, List.append_assoc, scanFloat_text he.mid2.1 e.im (he.im rfl) tl htlw, hr1, hfin]
      simp [MTEntry.values]

structure MTCol.WF (cplx : Bool) (c : MTCol) : Prop where
  pre : WsAll c.pre
  post : WsAll c.post ∧ c.post ≠ []
  len : c.entries.length < 2147483648
  entries : ∀ e ∈ c.entries, e.WF cplx

instance MTEntry.instDecidableWF (cplx : Bool) (e : MTEntry) : Decidable (e.WF cplx) :=
  decidable_of_iff (WsAll e.pre ∧ e.row + 1 < 2147483648 ∧ (WsAll e.mid ∧ e.mid ≠ []) ∧ e.re.WFE ∧
      (WsAll e.mid2 ∧ e.mid2 ≠ []) ∧ (cplx = true → e.im.WFE) ∧ (WsAll e.post ∧ e.post ≠ []))
    ⟨fun ⟨h1, h2, h3, h4, h5, h6, h7⟩ => ⟨h1, h2, h3, h4, h5, h6, h7⟩,
      fun ⟨h1, h2, h3, h4, h5, h6, h7⟩ => ⟨h1, h2, h3, h4, h5, h6, h7⟩⟩

instance MTCol.instDecidableWF (cplx : Bool) (c : MTCol) : Decidable (c.WF cplx) :=
  decidable_of_iff (WsAll c.pre ∧ (WsAll c.post ∧ c.post ≠ []) ∧ c.entries.length < 2147483648 ∧
      ∀ e ∈ c.entries, e.WF cplx)
    ⟨fun ⟨h1, h2, h3, h4⟩ => ⟨h1, h2, h3, h4⟩, fun ⟨h1, h2, h3, h4⟩ => ⟨h1, h2, h3, h4⟩⟩

theorem mtCount_cons (c : MTCol) (cs : List MTCol) : mtCount (c :: cs) = c.entries.length + mtCount cs := by
  simp [mtCount]

theorem mtCols_written (cplx : Bool) (nonz : Int) :
    ∀ (cs : List MTCol) (lasta : Nat) (rest s : Str),
      (∀ c ∈ cs, c.WF cplx) → ((lasta + mtCount cs : Nat) : Int) ≤ nonz →
      skipSpace s = skipSpace ((cs.map (MTCol.text cplx)).flatten ++ rest) →
      ∃ ptr, mtCols cplx nonz cs.length (lasta : Int) s =
          some (ptr, mtRows cs, mtVals cplx cs, ((lasta + mtCount cs : Nat) : Int)) ∧
        ptr ++ [((lasta + mtCount cs : Nat) : Int)] = mtColptr lasta cs := by
  intro cs
  induction cs with
  | nil =>
    intro lasta rest s _ _ _
    exact ⟨[], by simp [mtCols, mtRows, mtVals, mtCount], by simp [mtColptr, mtCount]⟩
  | cons c cs ih =>
    intro lasta rest s hwf hle hs
    have hc := hwf c (by simp)
    rw [mtCount_cons] at hle
    have htxt : (List.map (MTCol.text cplx) (c :: cs)).flatten ++ rest =
        c.pre ++ (natDigits c.entries.length ++ (c.post ++ ((c.entries.map (MTEntry.text cplx)).flatten ++
          ((cs.map (MTCol.text cplx)).flatten ++ rest)))) := by
      simp [MTCol.text]
    have h1 : scanInt s = some ((c.entries.length : Int), c.post ++ ((c.entries.map (MTEntry.text cplx)).flatten ++
          ((cs.map (MTCol.text cplx)).flatten ++ rest))) := by
      rw [scanInt_congr hs, htxt]
      exact scanInt_digits hc.pre hc.len (wsHead_append hc.post).noDig
    obtain ⟨r', hr1, hr2⟩ := mtEntries_written cplx nonz c.entries lasta
      ((cs.map (MTCol.text cplx)).flatten ++ rest)
      (c.post ++ ((c.entries.map (MTEntry.text cplx)).flatten ++ ((cs.map (MTCol.text cplx)).flatten ++ rest)))
      hc.entries (by omega) (skipSpace_ws hc.post.1 _)
    obtain ⟨ptr, hp1, hp2⟩ := ih (lasta + c.entries.length) rest r' (fun x hx => hwf x (by simp [hx]))
      (by rw [Nat.add_assoc]; exact hle) hr2
    have hfin : ((lasta + c.entries.length + mtCount cs : Nat) : Int) = ((lasta + mtCount (c :: cs) : Nat) : Int) := by
      rw [mtCount_cons, Nat.add_assoc]
    refine ⟨(lasta : Int) :: ptr, ?_, ?_⟩
    · simp only [List.length_cons, mtCols, h1, Int.toNat_natCast, hr1, hp1, hfin]
      simp [mtRows, mtVals]
    · rw [← hfin, List.cons_append, hp2]
      rfl

end Slu.Read
