/- triangular sweeps that eliminate the unknowns block by block in a dependency-respecting order, on vectors
   `Nat → K`.  A loop is given by what one round does (`StepN`: column-oriented, axpy; `StepT`: row-oriented, dot
   product) and the round `ord j` of unknown `j`; `solveN_foldl` / `solveT_foldl` serve the dense ?trsv kernels (one
   unknown per round) and the supernodal sweeps alike. -/
import SluVerif.Proofs.BlasMem
import Mathlib.Algebra.Field.Defs
namespace Slu.Blas
open Finset
variable {K : Type} [Field K]

/-- the block `B` is solved against its diagonal block, every other cell updated with the block's columns -/
def StepN (n : Nat) (M : Nat → Nat → K) (B : Finset Nat) (ξ ξ' : Nat → K) : Prop :=
  (∀ i ∈ B, ξ i = ∑ j ∈ B, M i j * ξ' j) ∧
  (∀ i < n, i ∉ B → ξ' i = ξ i - ∑ j ∈ B, M i j * ξ' j)

/-- the rows of `B` are solved by dot products, nothing else changes -/
def StepT (n : Nat) (T : Nat → Nat → K) (B : Finset Nat) (ξ ξ' : Nat → K) : Prop :=
  (∀ i ∈ B, ξ i = ∑ j ∈ range n, T i j * ξ' j) ∧ (∀ i < n, i ∉ B → ξ' i = ξ i)

/-- the processed unknowns are final; every other cell holds the right-hand side minus the processed columns'
contributions -/
def InvN (n : Nat) (M : Nat → Nat → K) (P : Finset Nat) (ξ b : Nat → K) : Prop :=
  ∀ i < n, b i = (if i ∈ P then 0 else ξ i) + ∑ j ∈ P, M i j * ξ j

theorem InvN_init (n : Nat) (M : Nat → Nat → K) (b : Nat → K) : InvN n M ∅ b b := by
  intro i _; simp

theorem InvN_final (n : Nat) (M : Nat → Nat → K) {ξ b : Nat → K} (h : InvN n M (range n) ξ b) :
    ∀ i < n, ∑ j ∈ range n, M i j * ξ j = b i := by
  intro i hi
  have := h i hi
  simp only [mem_range, hi, if_true, zero_add] at this
  exact this.symm

theorem InvN_step (n : Nat) (M : Nat → Nat → K) (P B : Finset Nat) (ξ ξ' b : Nat → K)
    (hdisj : Disjoint P B) (hstruct : ∀ i ∈ P, ∀ j ∈ B, M i j = 0) (hstep : StepN n M B ξ ξ')
    (hP : ∀ j ∈ P, j < n)
    (h : InvN n M P ξ b) : InvN n M (P ∪ B) ξ' b := by
  obtain ⟨ha, hb⟩ := hstep
  intro i hi
  have hPfix : ∀ j ∈ P, ξ' j = ξ j := by
    intro j hj
    have hjB : j ∉ B := fun hB => (disjoint_left.mp hdisj) hj hB
    rw [hb j (hP j hj) hjB, sum_eq_zero (fun k hk => by rw [hstruct j hj k hk, zero_mul]), sub_zero]
  have hsumP : ∑ j ∈ P, M i j * ξ' j = ∑ j ∈ P, M i j * ξ j :=
    sum_congr rfl (fun j hj => by rw [hPfix j hj])
  rw [sum_union hdisj, hsumP, h i hi]
  by_cases hiP : i ∈ P
  · have hiB : i ∉ B := fun hB => (disjoint_left.mp hdisj) hiP hB
    have : ∑ j ∈ B, M i j * ξ' j = 0 := sum_eq_zero (fun k hk => by rw [hstruct i hiP k hk, zero_mul])
    simp [hiP, this]
  · by_cases hiB : i ∈ B
    · simp only [hiP, if_false, mem_union, hiB, or_true, if_true]
      rw [ha i hiB]; ring
    · simp only [hiP, if_false, mem_union, hiB, or_false]
      rw [hb i hi hiB]; ring

/-- the rows in `P` satisfy their equations, the other cells still hold the right-hand side -/
def InvT (n : Nat) (T : Nat → Nat → K) (P : Finset Nat) (ξ b : Nat → K) : Prop :=
  (∀ i ∈ P, b i = ∑ j ∈ range n, T i j * ξ j) ∧ (∀ i < n, i ∉ P → ξ i = b i)

theorem InvT_init (n : Nat) (T : Nat → Nat → K) (b : Nat → K) : InvT n T ∅ b b :=
  ⟨fun i hi => absurd hi (notMem_empty i), fun _ _ _ => rfl⟩

theorem InvT_final (n : Nat) (T : Nat → Nat → K) {ξ b : Nat → K} (h : InvT n T (range n) ξ b) :
    ∀ i < n, ∑ j ∈ range n, T i j * ξ j = b i :=
  fun i hi => (h.1 i (mem_range.mpr hi)).symm

theorem InvT_step (n : Nat) (T : Nat → Nat → K) (P B : Finset Nat) (ξ ξ' b : Nat → K)
    (hstruct : ∀ i ∈ P, ∀ j ∈ B, T i j = 0) (hstep : StepT n T B ξ ξ')
    (hPB : Disjoint P B) (hBn : ∀ j ∈ B, j < n)
    (h : InvT n T P ξ b) : InvT n T (P ∪ B) ξ' b := by
  obtain ⟨hc, hd⟩ := hstep
  refine ⟨?_, ?_⟩
  · intro i hi
    rcases mem_union.mp hi with hiP | hiB
    · rw [h.1 i hiP]
      apply sum_congr rfl
      intro j hj
      by_cases hjB : j ∈ B
      · rw [hstruct i hiP j hjB, zero_mul, zero_mul]
      · rw [hd j (mem_range.mp hj) hjB]
    · have hiP : i ∉ P := fun hP => (disjoint_left.mp hPB) hP hiB
      rw [← h.2 i (hBn i hiB) hiP, hc i hiB]
  · intro i hin hi
    have hiP : i ∉ P := fun hP => hi (mem_union_left _ hP)
    have hiB : i ∉ B := fun hB => hi (mem_union_right _ hB)
    rw [hd i hin hiB, h.2 i hin hiP]

theorem StepN.congr {n : Nat} {M M' : Nat → Nat → K} {B : Finset Nat} {ξ ξ' : Nat → K}
    (h : StepN n M B ξ ξ') (hM : ∀ i, ∀ j ∈ B, M i j = M' i j) : StepN n M' B ξ ξ' :=
  ⟨fun i hi => by rw [h.1 i hi]; exact sum_congr rfl fun j hj => by rw [hM i j hj],
   fun i hi hiB => by rw [h.2 i hi hiB, sum_congr rfl fun j hj => by rw [hM i j hj]]⟩

theorem StepT.congr {n : Nat} {T T' : Nat → Nat → K} {B : Finset Nat} {ξ ξ' : Nat → K}
    (h : StepT n T B ξ ξ') (hT : ∀ i ∈ B, ∀ j, T i j = T' i j) : StepT n T' B ξ ξ' :=
  ⟨fun i hi => by rw [h.1 i hi]; exact sum_congr rfl fun j _ => by rw [hT i hi j], h.2⟩

theorem StepN_singleton {n : Nat} {M : Nat → Nat → K} {j : Nat} {ξ ξ' : Nat → K} :
    StepN n M {j} ξ ξ' ↔ ξ j = M j j * ξ' j ∧ ∀ i < n, i ≠ j → ξ' i = ξ i - M i j * ξ' j := by
  simp only [StepN, mem_singleton, forall_eq, sum_singleton]

theorem StepT_singleton {n : Nat} {T : Nat → Nat → K} {j : Nat} {ξ ξ' : Nat → K} :
    StepT n T {j} ξ ξ' ↔ ξ j = ∑ k ∈ range n, T j k * ξ' k ∧ ∀ i < n, i ≠ j → ξ' i = ξ i := by
  simp only [StepT, mem_singleton, forall_eq]

/-- unknowns of the rounds before `k` -/
def doneBefore (n : Nat) (ord : Nat → Nat) (k : Nat) : Finset Nat := (range n).filter fun j => ord j < k

theorem doneBefore_zero (n : Nat) (ord : Nat → Nat) : doneBefore n ord 0 = ∅ :=
  filter_false_of_mem fun _ _ => Nat.not_lt_zero _

theorem doneBefore_all {n N : Nat} {ord : Nat → Nat} (hord : ∀ j < n, ord j < N) : doneBefore n ord N = range n :=
  filter_true_of_mem fun j hj => hord j (mem_range.mp hj)

/- `B`: the unknowns of round `k` -/
theorem doneBefore_succ {n k : Nat} {ord : Nat → Nat} {B : Finset Nat} (hB : ∀ j, j ∈ B ↔ j < n ∧ ord j = k) :
    doneBefore n ord (k + 1) = doneBefore n ord k ∪ B := by
  ext j
  simp only [doneBefore, mem_filter, mem_range, mem_union, hB]
  omega

theorem doneBefore_disj {n k : Nat} {ord : Nat → Nat} {B : Finset Nat} (hB : ∀ j, j ∈ B ↔ j < n ∧ ord j = k) :
    Disjoint (doneBefore n ord k) B :=
  disjoint_left.mpr fun j hj hj' => by
    have := (mem_filter.mp hj).2
    have := ((hB j).mp hj').2
    omega

theorem doneBefore_struct {n k : Nat} {ord : Nat → Nat} {B : Finset Nat} (hB : ∀ j, j ∈ B ↔ j < n ∧ ord j = k)
    {M : Nat → Nat → K} (hM : ∀ i < n, ∀ j < n, ord i < ord j → M i j = 0) :
    ∀ i ∈ doneBefore n ord k, ∀ j ∈ B, M i j = 0 :=
  fun i hi j hj => hM i (mem_range.mp (mem_filter.mp hi).1) j ((hB j).mp hj).1
    (by rw [((hB j).mp hj).2]; exact (mem_filter.mp hi).2)

/-- `ord j`: the round of unknown `j`; `blk k`: the unknowns of round `k`; `v` reads the state as a vector, `Q` is
whatever else the loop keeps.  If no unknown has an entry in the column of a later-round unknown (`hM`), the loop
solves `M ξ = b`. -/
theorem solveN_foldl {σ : Type} {n N : Nat} {ord : Nat → Nat} {blk : Nat → Finset Nat} {M : Nat → Nat → K}
    (v : σ → Nat → K) (Q : σ → Prop) (step : σ → Nat → σ) (s : σ)
    (hord : ∀ j < n, ord j < N) (hblk : ∀ k < N, ∀ j, j ∈ blk k ↔ j < n ∧ ord j = k)
    (hM : ∀ i < n, ∀ j < n, ord i < ord j → M i j = 0) (hs : Q s)
    (hstep : ∀ k < N, ∀ s, Q s → Q (step s k) ∧ StepN n M (blk k) (v s) (v (step s k))) :
    Q ((List.range N).foldl step s) ∧
    ∀ i < n, ∑ j ∈ range n, M i j * v ((List.range N).foldl step s) j = v s i := by
  have key := foldl_range_inv step (fun k s' => Q s' ∧ InvN n M (doneBefore n ord k) (v s') (v s)) s N
    ⟨hs, by rw [doneBefore_zero]; exact InvN_init n M (v s)⟩
    (fun k s' hk ⟨q, inv⟩ => by
      obtain ⟨q', st⟩ := hstep k hk s' q
      rw [doneBefore_succ (hblk k hk)]
      exact ⟨q', InvN_step n M _ (blk k) (v s') (v (step s' k)) (v s) (doneBefore_disj (hblk k hk))
        (doneBefore_struct (hblk k hk) hM) st (fun j hj => mem_range.mp (mem_filter.mp hj).1) inv⟩)
  rw [doneBefore_all hord] at key
  exact ⟨key.1, InvN_final n M key.2⟩

/-- the same for a loop that solves the rows of a round by dot products -/
theorem solveT_foldl {σ : Type} {n N : Nat} {ord : Nat → Nat} {blk : Nat → Finset Nat} {M : Nat → Nat → K}
    (v : σ → Nat → K) (Q : σ → Prop) (step : σ → Nat → σ) (s : σ)
    (hord : ∀ j < n, ord j < N) (hblk : ∀ k < N, ∀ j, j ∈ blk k ↔ j < n ∧ ord j = k)
    (hM : ∀ i < n, ∀ j < n, ord i < ord j → M i j = 0) (hs : Q s)
    (hstep : ∀ k < N, ∀ s, Q s → Q (step s k) ∧ StepT n M (blk k) (v s) (v (step s k))) :
    Q ((List.range N).foldl step s) ∧
    ∀ i < n, ∑ j ∈ range n, M i j * v ((List.range N).foldl step s) j = v s i := by
  have key := foldl_range_inv step (fun k s' => Q s' ∧ InvT n M (doneBefore n ord k) (v s') (v s)) s N
    ⟨hs, by rw [doneBefore_zero]; exact InvT_init n M (v s)⟩
    (fun k s' hk ⟨q, inv⟩ => by
      obtain ⟨q', st⟩ := hstep k hk s' q
      rw [doneBefore_succ (hblk k hk)]
      exact ⟨q', InvT_step n M _ (blk k) (v s') (v (step s' k)) (v s) (doneBefore_struct (hblk k hk) hM)
        st (doneBefore_disj (hblk k hk)) (fun j hj => ((hblk k hk j).mp hj).1) inv⟩)
  rw [doneBefore_all hord] at key
  exact ⟨key.1, InvT_final n M key.2⟩

end Slu.Blas
