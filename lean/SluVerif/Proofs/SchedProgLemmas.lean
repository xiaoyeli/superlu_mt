/-
The panel forest (`Desc`) and the columns of the panels (`ColWF`): what a worker waits for and where `climbDone` stops.
-/
import SluVerif.Proofs.SchedInv

namespace Slu
open Slu.Gen
open Classical

/-- descendant-or-self in the panel forest -/
inductive Desc (K : Cfg) : Nat → Nat → Prop
  | refl (p : Nat) : Desc K p p
  | step (q p : Nat) (hq : q ∈ K.panels) (hd : K.dad q < K.c.n) : Desc K (K.dad q) p → Desc K q p

theorem desc_le (K : Cfg) (W : CfgWF K) {q p : Nat} (h : Desc K q p) : q ≤ p := by
  induction h with
  | refl p => exact le_refl _
  | step q p hq hd _ ih =>
    have := (W.dad_gt q hq).1
    omega

theorem desc_dad (K : Cfg) {q p : Nat} (h : Desc K q p) (hne : q ≠ p) : Desc K (K.dad q) p ∧ q ∈ K.panels ∧ K.dad q < K.c.n := by
  cases h with
  | refl => exact absurd rfl hne
  | step _ _ hq hd h' => exact ⟨h', hq, hd⟩

theorem desc_up (K : Cfg) {b j : Nat} (h : Desc K b j) (hj : j ∈ K.panels) (hd : K.dad j < K.c.n) : Desc K b (K.dad j) := by
  induction h with
  | refl p => exact Desc.step p _ hj hd (Desc.refl _)
  | step q p hq hdq _ ih => exact Desc.step q _ hq hdq (ih hj hd)

theorem below_taken (K : Cfg) (s : Sys) (inv : SysInv K s) {q p : Nat} (h : Desc K q p)
    (hp : p ∈ K.panels) (ht : stt s p ≤ BUSY) : q ∈ K.panels ∧ stt s q ≤ BUSY := by
  induction h with
  | refl p => exact ⟨hp, ht⟩
  | step q p hq hd _ ih =>
    obtain ⟨h1, h2⟩ := ih hp ht
    refine ⟨hq, ?_⟩
    apply inv.closed (K.dad q) h1 _ q hq rfl
    have := state_order
    omega

/-- `below_taken` as DESIGN.md and the audit name it (`W` is not needed) -/
theorem desc_taken (K : Cfg) (W : CfgWF K) (s : Sys) (inv : SysInv K s) {q p : Nat} (h : Desc K q p)
    (hp : p ∈ K.panels) (ht : stt s p ≤ BUSY) : q ∈ K.panels ∧ stt s q ≤ BUSY :=
  below_taken K s inv h hp ht

theorem desc_trans (K : Cfg) {a b c : Nat} (h1 : Desc K a b) (h2 : Desc K b c) : Desc K a c := by
  induction h1 with
  | refl p => exact h2
  | step q p hq hd _ ih => exact Desc.step q _ hq hd (ih h2)

theorem desc_child (K : Cfg) {q p : Nat} (h : Desc K q p) (hne : q ≠ p) :
    ∃ c, c ∈ K.panels ∧ K.dad c = p ∧ K.dad c < K.c.n ∧ Desc K q c := by
  induction h with
  | refl p => exact absurd rfl hne
  | step q p hq hd h' ih =>
    by_cases e : K.dad q = p
    · exact ⟨q, hq, e, hd, Desc.refl q⟩
    · obtain ⟨c, c1, c2, c3, c4⟩ := ih e
      exact ⟨c, c1, c2, c3, Desc.step q c hq hd c4⟩

theorem desc_linear (K : Cfg) {x a b : Nat} (h1 : Desc K x a) (h2 : Desc K x b) : Desc K a b ∨ Desc K b a := by
  induction h1 generalizing b with
  | refl p => left; exact h2
  | step q p hq hd h' ih =>
    cases h2 with
    | refl => right; exact Desc.step q p hq hd h'
    | step _ _ _ _ h2' => exact ih h2'

theorem desc_antisymm (K : Cfg) (W : CfgWF K) {a b : Nat} (h1 : Desc K a b) (h2 : Desc K b a) : a = b := by
  have := desc_le K W h1
  have := desc_le K W h2
  omega

/-- `pan k`: first column of the panel holding column `k`; `wd p`: width of panel `p` -/
structure ColCfg where
  pan : Nat → Nat
  wd : Nat → Nat

structure ColWF (K : Cfg) (Q : ColCfg) : Prop where
  pan_mem : ∀ k, k < K.c.n → Q.pan k ∈ K.panels
  pan_rng : ∀ k, k < K.c.n → Q.pan k ≤ k ∧ k < Q.pan k + Q.wd (Q.pan k)
  pan_cols : ∀ p ∈ K.panels, ∀ k, p ≤ k → k < p + Q.wd p → Q.pan k = p
  wd_pos : ∀ p ∈ K.panels, 0 < Q.wd p
  cols_lt : ∀ p ∈ K.panels, p + Q.wd p ≤ K.c.n
  inner : ∀ k, k < K.c.n → k + 1 < Q.pan k + Q.wd (Q.pan k) →
      Q.pan k ≤ getN K.c.etree k ∧ getN K.c.etree k < Q.pan k + Q.wd (Q.pan k)
  last : ∀ p ∈ K.panels, getN K.c.etree (p + Q.wd p - 1) = K.dad p

theorem pan_self (K : Cfg) (Q : ColCfg) (C : ColWF K Q) (p : Nat) (hp : p ∈ K.panels) : Q.pan p = p :=
  C.pan_cols p hp p (le_refl _) (by have := C.wd_pos p hp; omega)

/-- every column a worker waits for lies in a proper descendant panel of the panel it holds -/
theorem waitChain_below (K : Cfg) (W : CfgWF K) (Q : ColCfg) (C : ColWF K Q) (p : Nat) :
    ∀ fuel k, k < K.c.n → Desc K (Q.pan k) p → ∀ x ∈ waitChain K.c p fuel k, x < K.c.n ∧ x < p ∧ Desc K (Q.pan x) p := by
  intro fuel
  induction fuel with
  | zero => intro k _ _ x hx; simp [waitChain] at hx
  | succ fuel ih =>
    intro k hk hd x hx
    unfold waitChain at hx
    by_cases hkp : k < p
    · rw [if_pos hkp] at hx
      rcases List.mem_cons.1 hx with e | hx'
      · subst e; exact ⟨hk, hkp, hd⟩
      · have hq := C.pan_mem k hk
        have hr := C.pan_rng k hk
        by_cases hin : k + 1 < Q.pan k + Q.wd (Q.pan k)
        · obtain ⟨i1, i2⟩ := C.inner k hk hin
          have hlt := C.cols_lt (Q.pan k) hq
          have he : Q.pan (getN K.c.etree k) = Q.pan k := C.pan_cols (Q.pan k) hq _ i1 i2
          exact ih (getN K.c.etree k) (by omega) (by rw [he]; exact hd) x hx'
        · have hk' : k = Q.pan k + Q.wd (Q.pan k) - 1 := by omega
          have hne : Q.pan k ≠ p := by omega
          obtain ⟨d1, d2, d3⟩ := desc_dad K hd hne
          have he : getN K.c.etree k = K.dad (Q.pan k) := by
            have := C.last (Q.pan k) hq
            rw [← hk'] at this; exact this
          have hdp := W.dad_pan (Q.pan k) hq d3
          rw [he] at hx'
          exact ih (K.dad (Q.pan k)) d3 (by rw [pan_self K Q C _ hdp]; exact d1) x hx'
    · rw [if_neg hkp] at hx; cases hx

/-- `waitChain_below` as DESIGN.md and the audit name it (`hp` is not needed) -/
theorem waitChain_desc (K : Cfg) (W : CfgWF K) (Q : ColCfg) (C : ColWF K Q) (p : Nat) (hp : p ∈ K.panels) :
    ∀ fuel k, k < K.c.n → Desc K (Q.pan k) p → ∀ x ∈ waitChain K.c p fuel k, x < K.c.n ∧ x < p ∧ Desc K (Q.pan x) p :=
  waitChain_below K W Q C p

/-- started at `x` below an unfinished panel `j`, the climb over DONE panels ends between `x` and `j`, and every panel
it passed is DONE -/
theorem climb_path (K : Cfg) (W : CfgWF K) (s' : Sys) (hdad : ∀ j, dadPanel K.c s'.sh j = K.dad j) (j : Nat)
    (hj : stt s' j ≠ DONE) :
    ∀ fuel x, x ∈ K.panels → Desc K x j →
      (climbDone K.c s'.sh fuel x ∈ K.panels ∧ Desc K (climbDone K.c s'.sh fuel x) j) ∧
      Desc K x (climbDone K.c s'.sh fuel x) ∧
      ∀ z, Desc K x z → Desc K z (climbDone K.c s'.sh fuel x) → z ≠ climbDone K.c s'.sh fuel x → stt s' z = DONE := by
  intro fuel
  induction fuel with
  | zero => exact fun x hx hd => ⟨⟨hx, hd⟩, Desc.refl x, fun z h1 h2 hne => absurd (desc_antisymm K W h2 h1) hne⟩
  | succ fuel ih =>
    intro x hx hd
    unfold climbDone
    by_cases hs : (getN s'.sh.state x == DONE) = true
    · rw [if_pos hs, hdad]
      have hxd : stt s' x = DONE := by unfold stt; simpa using hs
      obtain ⟨d1, d2, d3⟩ := desc_dad K hd (fun e => hj (e ▸ hxd))
      obtain ⟨i0, i1, i2⟩ := ih (K.dad x) (W.dad_pan x d2 d3) d1
      refine ⟨i0, Desc.step x _ d2 d3 i1, ?_⟩
      intro z h1 h2 hnz
      -- z is x itself or lies above dad x
      cases h1 with
      | refl => exact hxd
      | step _ _ _ _ h1' => exact i2 z h1' h2 hnz
    · rw [if_neg hs]
      exact ⟨⟨hx, hd⟩, Desc.refl x, fun z h1 h2 hne => absurd (desc_antisymm K W h2 h1) hne⟩

/-- the part of `climb_path` that `ProgInv` needs -/
theorem climb_desc (K : Cfg) (W : CfgWF K) (s' : Sys) (hdad : ∀ j, dadPanel K.c s'.sh j = K.dad j) (j : Nat)
    (hj : stt s' j ≠ DONE) :
    ∀ fuel x, x ∈ K.panels → Desc K x j → climbDone K.c s'.sh fuel x ∈ K.panels ∧ Desc K (climbDone K.c s'.sh fuel x) j :=
  fun fuel x hx hd => (climb_path K W s' hdad j hj fuel x hx hd).1

end Slu
