/- The vocabulary of Model/ArgBase.lean, and the tactics that compare a chain with a table. -/
import SluVerif.Model.ArgDoc
namespace Slu.ArgLemmas
open Slu.Arg Slu.Gen Slu.Doc

theorem cmax_eq (x y : Int) : cmax x y = max x y := by
  unfold cmax; omega

theorem cmin_le (a b : Int) : (cmin a b ≤ 0) ↔ (a ≤ 0 ∨ b ≤ 0) := by
  unfold cmin
  split <;> omega

/-- equal characters fold to equal characters -/
theorem lsame_iff (c k : Int) : (lsame c k = true) ↔ upcase c = upcase k := by
  simp only [lsame, Bool.or_eq_true, beq_iff_eq, or_iff_right_iff_imp]
  exact congrArg upcase

/-- `k` an upper-case literal: what every call in the library passes -/
theorem lsame_upper (c k : Int) (h1 : 65 ≤ k) (h2 : k ≤ 90) : (lsame c k = true) ↔ (c = k ∨ c = k + 32) := by
  rw [lsame_iff]
  unfold upcase
  split <;> split <;> omega

theorem isLetter_iff (c k : Int) : (isLetter c k = true) ↔ (c = k ∨ c = k + 32) := by
  simp [isLetter]
theorem isLetter_false_iff (c k : Int) : (isLetter c k = false) ↔ ¬(c = k ∨ c = k + 32) := by
  simp [isLetter]

theorem foldl_cmin_le (xs : List Int) (init : Int) :
    (xs.foldl cmin init ≤ 0) ↔ (init ≤ 0 ∨ xs.any (fun x => decide (x ≤ 0)) = true) := by
  induction xs generalizing init with
  | nil => simp
  | cons x xs ih =>
    simp only [List.foldl_cons, List.any_cons, Bool.or_eq_true, decide_eq_true_eq]
    rw [ih, cmin_le, or_assoc]

theorem loopMin_le {init : Int} {xs : List Int} {n : Int} (h : 0 < init) :
    (loopMin init xs n ≤ 0) ↔ someNonPos xs n = true := by
  unfold loopMin someNonPos
  rw [foldl_cmin_le, or_iff_right (Int.not_le.2 h)]

theorem fo_nil : firstOffender [] = 0 := rfl
theorem fo_cons (i : Nat) (v : Bool) (r : List (Nat × Bool)) :
    firstOffender ((i, v) :: r) = if v = true then -(i : Int) else firstOffender r := rfl

theorem firstOffender_of_allValid {t : List (Nat × Bool)} (h : allValid t = true) : firstOffender t = 0 := by
  induction t with
  | nil => rfl
  | cons p t ih =>
    simp only [allValid, List.all_cons, Bool.and_eq_true, Bool.not_eq_true'] at h
    rw [fo_cons, h.1]
    exact ih h.2

/-- a valid table read at position `i` (the tables list the positions `1, 2, …` in order) -/
theorem valid_at {t : List (Nat × Bool)} (h : allValid t = true) (i : Nat) {v : Bool} (hp : t[i - 1]? = some (i, v)) :
    v = false :=
  (Bool.not_eq_true' v).mp (List.all_eq_true.1 h (i, v) (List.mem_of_getElem? hp))

theorem allValid_of_firstOffender (t : List (Nat × Bool)) (hpos : ∀ p ∈ t, 0 < p.1) (h : firstOffender t = 0) :
    allValid t = true := by
  induction t with
  | nil => rfl
  | cons p t ih =>
    obtain ⟨i, v⟩ := p
    have hi : 0 < i := hpos (i, v) (List.mem_cons_self ..)
    cases v with
    | true => simp [firstOffender] at h; omega
    | false =>
      have := ih (fun p hp => hpos p (List.mem_cons_of_mem _ hp)) h
      simpa [allValid] using this

theorem ite_congr' {c d : Prop} [Decidable c] [Decidable d] {x x' y y' : Int}
    (h1 : c ↔ d) (h2 : x = x') (h3 : ¬ d → y = y') : (if c then x else y) = (if d then x' else y') :=
  ite_congr (propext h1) (fun _ => h2) h3

/-- unfold the translator's enum constants (once the `decide`s are gone) -/
macro "enum_unfold" : tactic => `(tactic| (
  (simp only [SLU_NC, SLU_NCP, SLU_NR, SLU_SC, SLU_SCP, SLU_SR, SLU_DN, SLU_NR_loc, SLU_S, SLU_D, SLU_C, SLU_Z,
    SLU_GE, SLU_TRLU, SLU_TRUU, SLU_TRL, SLU_TRU, SLU_SYL, SLU_SYU, SLU_HEL, SLU_HEU,
    DOFACT, EQUILIBRATE, FACTORED, NOTRANS, TRANS, CONJ, YES, NO, NOEQUIL, ROW, COL, BOTH] at *)))

/-- walk past one test that, after `table_norm`, is its table entry verbatim (a chain all of whose tests are closes
    by `rfl`).  The negated test is not kept: a test that leans on an earlier one takes it from `ite_congr'` by hand. -/
macro "chain_same" : tactic => `(tactic| (refine ite_congr' Iff.rfl rfl (fun h => ?_); clear h))
/-- one test against its entry when the alternatives are ordered differently or a fact from the context is needed:
    linear arithmetic -/
macro "chain_step" : tactic => `(tactic| (refine ite_congr' (by omega) rfl (fun h => ?_); clear h))

/-- unfold tables, turn `decide`s into propositions, drop `(i, false)` entries, push negations inside, re-associate:
    with `enum_unfold` both sides become nested `if … then -i else …` over linear integer (in)equalities -/
macro "table_norm" : tactic => `(tactic| (
  simp only [fo_cons, fo_nil, decide_eq_true_eq, cmax_eq, Bool.false_eq_true, ↓reduceIte, Bool.and_eq_true,
    Bool.or_eq_true, Bool.not_eq_true', Bool.not_eq_eq_eq_not, Bool.not_true, decide_eq_false_iff_not,
    lsame_upper, Int.reduceLE, Int.reduceAdd, isLetter_iff, isLetter_false_iff, apply_ite Neg.neg, Bool.or_eq_false_iff,
    Int.neg_zero, false_and, true_and, and_false, and_true, or_false, false_or, eq_self,
    not_or, ne_eq, or_assoc, and_assoc]))

end Slu.ArgLemmas
