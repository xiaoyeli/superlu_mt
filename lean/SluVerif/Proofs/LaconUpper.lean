/- est ≤ ‖M‖₁ : every candidate of the estimator is ‖M x‖₁ with ‖x‖₁ ≤ 1 -/
import SluVerif.Proofs.LaconBasic
import SluVerif.Proofs.LaconTerm

namespace Slu

/-- 1-norm of the probe vector pending in state `st` (`3n/2` for the alternating vector, else 1) -/
def laconW (n : Nat) (st : LaconSt) : Rat := if st.jump = 5 then 3 * (n : Rat) / 2 else 1

/-- what a call may assume: `est ≤ c`, and the reply to a `kase = 1` request (label not 2 or 4) has `‖x‖₁ ≤ c·w` -/
def UpInv (n : Nat) (c : Rat) (st : LaconSt) (io : LaconIO) : Prop :=
  io.est ≤ c ∧ (io.kase ≠ 0 → st.jump ≠ 2 → st.jump ≠ 4 → asum n io.x ≤ c * laconW n st)

theorem asum_altVec_le (n : Nat) (hn : 1 ≤ n) : asum n (altVec n) ≤ 3 * (n : Rat) / 2 := by
  rcases Nat.lt_or_ge n 2 with h | h
  · have : n = 1 := by omega
    subst this
    unfold altVec
    rw [asum_rmk, Finset.sum_range_one]
    norm_num
  · exact le_of_eq (asum_altVec n h)

/-- a new estimate is `‖reply‖₁` for a probe of 1-norm at most `laconW` (times `2/(3n)` at L140); a new probe is one
of the three vectors of known norm -/
theorem laconCall_upper {n : Nat} {c : Rat} {apply applyT : RVec → RVec} (hn : 1 ≤ n) (hc : 0 ≤ c)
    (hA : ∀ x, asum n (apply x) ≤ c * asum n x) :
    LaconStep n apply applyT (UpInv n c) (fun io => io.est ≤ c) := by
  rintro st io ⟨he, hx⟩
  have hx1 : io.kase ≠ 0 → st.jump ≠ 2 → st.jump ≠ 4 → st.jump ≠ 5 → asum n io.x ≤ c := by
    intro hk h2 h4 h5
    have := hx hk h2 h4
    rwa [laconW, if_neg h5, mul_one] at this
  have hx3 : io.kase ≠ 0 → st.jump = 3 → asum n io.x ≤ c := fun hk hj => hx1 hk (by omega) (by omega) (by omega)
  -- the reply to a probe `p` of 1-norm at most `w`
  have probe : ∀ {p : RVec} {w : Rat}, asum n p ≤ w → asum n (apply p) ≤ c * w :=
    fun {p _} hw => le_trans (hA p) (mul_le_mul_of_nonneg_left hw hc)
  have unit : ∀ {j}, asum n (apply (unitVec n j)) ≤ c * 1 := fun {j} => probe (asum_unitVec_le n j)
  have alt : asum n (apply (altVec n)) ≤ c * (3 * (n : Rat) / 2) := probe (asum_altVec_le n hn)
  -- `UpInv` of a new state: ⟨its `est ≤ c`, the bound on the reply given `kase ≠ 0`, `jump ≠ 2`, `jump ≠ 4`⟩
  apply laconCall_cases n apply applyT st io
  case start => exact fun _ => ⟨he, fun _ _ _ => probe (le_of_eq (asum_const n hn))⟩
  case L40 => exact fun _ _ => ⟨he, fun _ _ _ => unit⟩
  case L70 => exact fun hk hj => ⟨hx3 hk hj, fun _ _ _ => alt⟩
  case L90 => exact fun hk hj _ => ⟨hx3 hk hj, fun _ _ h4 => (h4 rfl).elim⟩
  case L110 => exact fun _ _ _ => ⟨he, fun _ _ _ => unit⟩
  case L110' => exact fun _ _ => ⟨he, fun _ _ _ => alt⟩
  case L140 =>
    intro hk hj _
    -- `‖x‖₁ ≤ c·3n/2` for the reply to the alternating vector, so `2‖x‖₁/(3n) ≤ c`
    have := hx hk (by omega) (by omega)
    rw [laconW, if_pos hj] at this
    show asum n io.x / (((n * 3 : Nat) : Int) : Rat) * 2 ≤ c
    rw [show ((((n * 3 : Nat) : Int)) : Rat) = 3 * (n : Rat) by push_cast; ring,
      div_mul_eq_mul_div, div_le_iff₀ (by positivity)]
    linarith
  case L140' => exact fun _ _ => he
  case L20 =>
    intro hk h2 _ h4 h5 h1
    subst h1
    exact (asum_one io.x).symm ▸ hx1 hk h2 h4 h5
  case L20' => exact fun hk h2 _ h4 h5 => ⟨hx1 hk h2 h4 h5, fun _ h2' _ => (h2' rfl).elim⟩

end Slu
