/-
Φ(s) = #panels not handed out + #not finished + #not reported to their parent.  A `finish` lowers Φ by one, a scheduler
call by (1 if a panel is handed out) + (1 if a finished panel is reported), nothing raises it: any run has at most
3·#panels productive steps (`global_progress`: one stays possible while a panel is unfinished; only empty polls repeat).
-/
import SluVerif.Props.C04Global

namespace Slu
open Slu.Gen
open Classical

noncomputable def phi (K : Cfg) (s : Sys) : Nat :=
  cnt K.panels (fun p => stt s p > BUSY) + cnt K.panels (fun p => stt s p ≠ DONE) + cnt K.panels (fun p => unrep s p)

def gain (c : PanelCfg) (s : Sys) : Ev → Nat
  | .loop _ => 0
  | .finish w => if enabled c s (.finish w) then 1 else 0
  | .sched w => if enabled c s (.sched w) then
                  (if (wk s w).cur.isSome then 1 else 0) + (if (schedule c s.sh (wk s w).cur 0).2.1.isSome then 1 else 0)
                else 0

theorem phi_loop (K : Cfg) (s : Sys) (w : Nat) (h : enabled K.c s (.loop w) = true) :
    phi K (step K.c s (.loop w)) = phi K s := by
  obtain ⟨ws', e, E⟩ := loop_effect K.c s w h
  have hst : stt ⟨s.sh, ws'⟩ = stt s := rfl
  unfold phi
  rw [e, unrep_congr _ _ hst E.cur_eq, hst]

theorem phi_finish (K : Cfg) (W : CfgWF K) (s : Sys) (inv : SysInv K s) (w : Nat) (h : enabled K.c s (.finish w) = true) :
    phi K (step K.c s (.finish w)) + 1 = phi K s := by
  obtain ⟨p, b, ws', e, E⟩ := finish_effect K.c s w h
  rw [← e] at E
  obtain ⟨_, hbusy, hpp, hst, hunrep⟩ := finish_facts W inv E
  have hord := state_order
  have h1 : cnt K.panels (fun q => stt (step K.c s (.finish w)) q > BUSY) = cnt K.panels (fun q => stt s q > BUSY) :=
    cnt_congr (fun q _ => finish_gt_iff W inv E q)
  have h2 : cnt K.panels (fun q => stt s q ≠ DONE) =
      cnt K.panels (fun q => stt (step K.c s (.finish w)) q ≠ DONE) + 1 :=
    cnt_remove_one K.panels _ _ p W.nodup hpp (by omega) (by rw [hst]; simp)
      (fun q _ hq => by rw [hst, if_neg hq])
  have h3 : cnt K.panels (fun q => unrep (step K.c s (.finish w)) q) = cnt K.panels (fun q => unrep s q) :=
    cnt_congr (fun q _ => hunrep q)
  unfold phi
  rw [h1, h3, h2]; omega

theorem phi_sched (K : Cfg) (W : CfgWF K) (s : Sys) (inv : SysInv K s) (w : Nat) (h : enabled K.c s (.sched w) = true) :
    phi K (step K.c s (.sched w)) + gain K.c s (.sched w) = phi K s := by
  obtain ⟨got, b, E⟩ := sched_effect K W s inv w h
  rw [gain, if_pos h, E.got_eq]
  generalize step K.c s (.sched w) = s' at E ⊢
  have h2 : cnt K.panels (fun q => stt s' q ≠ DONE) = cnt K.panels (fun q => stt s q ≠ DONE) :=
    cnt_congr (fun q _ => not_congr (E.done_iff q))
  have h3 : cnt K.panels (fun q => unrep s q) =
      cnt K.panels (fun q => unrep s' q) + (if (wk s w).cur.isSome then 1 else 0) := by
    cases hc : (wk s w).cur with
    | none => exact cnt_congr (fun q _ => (E.unrep_other (by rw [hc]; simp)).symm)
    | some q0 =>
      obtain ⟨a, b, c⟩ := E.unrep_cur inv hc
      exact cnt_remove_one K.panels _ _ q0 W.nodup a c b
        (fun x _ hx => (E.unrep_other (by rw [hc]; exact fun e => hx (Option.some.inj e).symm)).symm)
  unfold phi
  rw [E.cnt_untaken W, h2, h3]
  omega

/-- Φ never increases, and drops by exactly what the event achieves -/
theorem phi_step (K : Cfg) (W : CfgWF K) (s : Sys) (inv : SysInv K s) (e : Ev) :
    phi K (step K.c s e) + gain K.c s e = phi K s := by
  by_cases h : enabled K.c s e = true
  · cases e with
    | loop w => rw [phi_loop K s w h]; rfl
    | sched w => exact phi_sched K W s inv w h
    | finish w =>
      have := phi_finish K W s inv w h
      rw [gain, if_pos h]; exact this
  · have hd : enabled K.c s e = false := by simpa using h
    rw [step_disabled K.c s e hd]
    cases e with
    | loop w => rfl
    | sched w => rw [gain, hd]; rfl
    | finish w => rw [gain, hd]; rfl

def gains (c : PanelCfg) : Sys → List Ev → Nat
  | _, [] => 0
  | s, e :: es => gain c s e + gains c (step c s e) es

theorem phi_run (K : Cfg) (W : CfgWF K) (evs : List Ev) :
    ∀ s, SysInv K s → phi K (runEv K.c s evs) + gains K.c s evs = phi K s := by
  induction evs with
  | nil => intro s _; rfl
  | cons e es ih =>
    intro s inv
    have h1 := phi_step K W s inv e
    have h2 := ih (step K.c s e) (sysInv_step K W s inv e)
    show phi K (runEv K.c (step K.c s e) es) + (gain K.c s e + gains K.c (step K.c s e) es) = phi K s
    omega

theorem phi_le (K : Cfg) (s : Sys) : phi K s ≤ 3 * K.panels.length := by
  unfold phi
  have a := cnt_le_length K.panels (fun p => stt s p > BUSY)
  have b := cnt_le_length K.panels (fun p => stt s p ≠ DONE)
  have d := cnt_le_length K.panels (fun p => unrep s p)
  omega

/-- along every run, finished panels + hand-outs + reports ≤ 3·#panels. -/
theorem global_gains_bounded (c : PanelCfg) (sh : Sh) (nw : Nat) (h : initOk c sh = true) (evs : List Ev) :
    gains c (sysOf sh nw) evs ≤ 3 * (panelsOf c.n sh).length := by
  have := phi_run (cfgOf c sh) (cfgWF_of_initOk c sh h) evs (sysOf sh nw) (sysInv_of_initOk c sh nw h)
  have hb := phi_le (cfgOf c sh) (sysOf sh nw)
  show gains (cfgOf c sh).c _ _ ≤ 3 * (cfgOf c sh).panels.length
  omega

end Slu
