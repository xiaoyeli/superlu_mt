/- the accessors `getN`/`getZ` of Model/Sched.lean after a write, and a run of equal writes (`fillN`) -/
import SluVerif.Model.Sched
import SluVerif.Proofs.ArrayLemmas
import SluVerif.Proofs.ListLemmas

namespace Slu

theorem getN_set (a : Array Nat) (i j v : Nat) (hi : i < a.size) :
    getN (a.setIfInBounds i v) j = if j = i then v else getN a j := by
  unfold getN; exact getD_setIfInBounds_of_lt a i j v 0 hi

theorem getN_set_ne {a : Array Nat} {i j v : Nat} (h : j ≠ i) : getN (a.setIfInBounds i v) j = getN a j := by
  unfold getN; exact getD_setIfInBounds_ne a v 0 h

theorem getZ_set (a : Array Int) (i j : Nat) (v : Int) (hi : i < a.size) :
    getZ (a.setIfInBounds i v) j = if j = i then v else getZ a j := by
  unfold getZ; exact getD_setIfInBounds_of_lt a i j v 0 hi

/-- the `spin` loop of `takePanel` / `finishPanel`: `v` into the slots `j .. j+w-1` -/
def fillN (a : Array Nat) (j w v : Nat) : Array Nat := (List.range' j w).foldl (fun s i => s.setIfInBounds i v) a

theorem fillN_size (a : Array Nat) (j w v : Nat) : (fillN a j w v).size = a.size :=
  foldl_keeps Array.size _ (fun _ _ => Array.size_setIfInBounds)

theorem getN_fillN (a : Array Nat) (j w v k : Nat) (h : j + w ≤ a.size) :
    getN (fillN a j w v) k = if j ≤ k ∧ k < j + w then v else getN a k := by
  unfold fillN
  induction w generalizing a j with
  | zero => rw [if_neg (by omega)]; rfl
  | succ w ih =>
    rw [List.range'_succ, List.foldl_cons]
    rw [ih (a.setIfInBounds j v) (j + 1) (by simp only [Array.size_setIfInBounds]; omega)]
    by_cases hk : k = j
    · subst hk
      rw [if_neg (by omega), getN_set _ _ _ _ (by omega), if_pos rfl, if_pos (by omega)]
    · rw [getN_set_ne hk]
      by_cases h1 : j + 1 ≤ k ∧ k < j + 1 + w
      · rw [if_pos h1, if_pos (by omega)]
      · rw [if_neg h1, if_neg (by omega)]

end Slu
