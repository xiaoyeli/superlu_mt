/- Liu's algorithm (main loop of sp_symetree / sp_coletree) computes the elimination tree of the graph of the
   (row, col) pairs it is fed, row < col.  `SetsOk` ties the disjoint sets and `root[]` to the forest, one lemma
   per operation; why `parent[t] = col` is the right edge is in `LB` (between columns) and `LI` (inside one). -/
import SluVerif.Proofs.UnionFind
import SluVerif.Proofs.EtreeRef
namespace Slu.Pre

/-- graph whose edges are `{col, row}` for `row ∈ rowsOf col`, `row < col` -/
def liuGraph (rowsOf : Nat → List Nat) (a b : Nat) : Bool :=
  (decide (b < a) && (rowsOf a).contains b) || (decide (a < b) && (rowsOf b).contains a)

theorem liuGraph_symm (rowsOf : Nat → List Nat) (a b : Nat) : liuGraph rowsOf a b = liuGraph rowsOf b a := by
  unfold liuGraph
  rw [Bool.or_comm]

theorem liuGraph_lt (rowsOf : Nat → List Nat) {k i : Nat} (h : i < k) :
    liuGraph rowsOf k i = true ↔ i ∈ rowsOf k := by
  unfold liuGraph
  have : ¬ k < i := by omega
  simp [h, this]

def liuRun (n : Nat) (rowsOf : Nat → List Nat) : LiuSt :=
  (List.range n).foldl (fun s col => liuCol n col (rowsOf col) s) (liuInit n)

/-- state after `make_set (col)`, `root[cset] = col`, `parent[col] = n` -/
def liuS0 (n col : Nat) (s : LiuSt) : LiuSt :=
  { pp := s.pp.setIfInBounds col col, root := s.root.setIfInBounds col col,
    parent := s.parent.setIfInBounds col n, cset := col }

theorem liuCol_eq (n col : Nat) (rows : List Nat) (s : LiuSt) :
    liuCol n col rows s = rows.foldl (fun s row => liuEdge col row s) (liuS0 n col s) := rfl

/-- `parent[t] = k` at a top `t` leaves every path to a vertex `v < n` as it is -/
theorem Desc.link {parent : Array Nat} {n v x t k : Nat} (hv : v < n) (ht : getN parent t = n)
    (h : Desc (getN parent) n v x) : Desc (getN (parent.setIfInBounds t k)) n v x := by
  refine (h.congr_on (fun _ => True) trivial fun y _ _ hd => ⟨getN_set_ne fun e => ?_, trivial⟩).1
  -- a path through `y = t` would make `v` an ancestor of `parent[t] = n`
  rw [← e, ht] at hd
  have := hd.top
  omega

theorem liuEdge_eq (col row : Nat) (s : LiuSt) :
    liuEdge col row s =
      if col ≤ row then s else
      if getN s.root (ufFind row s.pp).1 ≠ col then
        { pp := (ufFind row s.pp).2.setIfInBounds s.cset (ufFind row s.pp).1,
          root := s.root.setIfInBounds (ufFind row s.pp).1 col,
          parent := s.parent.setIfInBounds (getN s.root (ufFind row s.pp).1) col,
          cset := (ufFind row s.pp).1 }
      else { s with pp := (ufFind row s.pp).2 } := rfl

/-- what the disjoint sets record about the forest `parent`: on the elements `0..m-1` every set is the vertex set
of one tree (`link`), and `root` maps the set's name to that tree's top, which lies in the set (`top`).
`szp`, `szu`, `szr`: lengths of `parent`, `pp` (union-find pointers), `root`. -/
structure SetsOk (n m : Nat) (s : LiuSt) : Prop where
  szp : s.parent.size = n
  szu : s.pp.size = n
  szr : s.root.size = n
  uf : ∃ rank, UFValid s.pp m rank
  link : ∀ i r, Rep s.pp m i r →
    Desc (getN s.parent) n (getN s.root r) i ∧ getN s.root r < n ∧ getN s.parent (getN s.root r) = n
  top : ∀ r, Rep s.pp m r r → Rep s.pp m (getN s.root r) r

section sets
variable {n m : Nat} {s : LiuSt}

theorem SetsOk.inj (h : SetsOk n m s) {r r' : Nat} (hr : Rep s.pp m r r) (hr' : Rep s.pp m r' r')
    (e : getN s.root r = getN s.root r') : r = r' :=
  (h.top r hr).unique (e ▸ h.top r' hr')

/-- `find` changes pointers only: the invariant stays, the result names the set of `row`, no representative moves -/
theorem SetsOk.find (h : SetsOk n m s) {row : Nat} (hrow : row < m) :
    SetsOk n m { s with pp := (ufFind row s.pp).2 } ∧ Rep s.pp m row (ufFind row s.pp).1 ∧
      ∀ i r, Rep (ufFind row s.pp).2 m i r ↔ Rep s.pp m i r := by
  obtain ⟨rank, hv⟩ := h.uf
  obtain ⟨r0, hr0⟩ := hv.total row hrow
  obtain ⟨f1, f2, f3, f4⟩ := ufFind_spec hv hr0
  have hsets : SetsOk n m { s with pp := (ufFind row s.pp).2 } :=
    { szp := h.szp
      szu := f3.trans h.szu
      szr := h.szr
      uf := ⟨rank, f2⟩
      link := fun i r hr => h.link i r ((f4 i r).1 hr)
      top := fun r hr => (f4 _ r).2 (h.top r ((f4 r r).1 hr)) }
  exact ⟨hsets, f1 ▸ hr0, f4⟩

/-- the union step: the set named `c` (top `k`) goes into the set named `r` (top `t`), `t` is hung below `k`, and
`k` is the top of the merged set -/
theorem SetsOk.union (h : SetsOk n m s) {c r : Nat} (hc : Rep s.pp m c c) (hr : Rep s.pp m r r) (hne : c ≠ r) :
    SetsOk n m { pp := s.pp.setIfInBounds c r, root := s.root.setIfInBounds r (getN s.root c),
                 parent := s.parent.setIfInBounds (getN s.root r) (getN s.root c), cset := r } ∧
    (∀ i, Rep s.pp m i c → Rep (s.pp.setIfInBounds c r) m i r) ∧
    ∀ i, Rep s.pp m i c ∨ Rep s.pp m i r →
      Desc (getN (s.parent.setIfInBounds (getN s.root r) (getN s.root c))) n (getN s.root c) i := by
  obtain ⟨rank, hv⟩ := h.uf
  have hrep := link_rep hv hc.is_root.1 hc.is_root.2 hr.is_root.1 hr.is_root.2 hne
  have hck := h.top c hc
  obtain ⟨_, hkn, hPk⟩ := h.link c c hc
  obtain ⟨_, htn, hPt⟩ := h.link r r hr
  have htk : getN s.root r ≠ getN s.root c := fun e => hne (h.inj hc hr e.symm)
  generalize hk : getN s.root c = k at *
  generalize ht : getN s.root r = t at *
  have hPk' : getN (s.parent.setIfInBounds t k) k = n := by
    rw [getN_set_ne htk]
    exact hPk
  have hkt : Desc (getN (s.parent.setIfInBounds t k)) n k t :=
    Desc.step htn (by rw [getN_set_self (h.szp ▸ htn)]; exact Desc.refl _)
  have hRr : getN (s.root.setIfInBounds r k) r = k :=
    getN_set_self (by rw [h.szr, ← h.szu]; exact Nat.lt_of_lt_of_le hr.lt hv.1)
  have below : ∀ i, Rep s.pp m i c ∨ Rep s.pp m i r → Desc (getN (s.parent.setIfInBounds t k)) n k i := by
    rintro i (hi | hi)
    · exact (hk ▸ (h.link i c hi).1).link hkn hPt
    · exact hkt.trans (((ht ▸ h.link i r hi).1).link htn hPt)
  refine ⟨{ szp := by simp [h.szp]
            szu := by simp [h.szu]
            szr := by simp [h.szr]
            uf := link_valid hv hc.is_root.1 hc.is_root.2 hr.is_root.1 hr.is_root.2 hne
            link := fun i r' hi => ?_
            top := fun x hx => ?_ },
    fun i hi => (hrep i r).2 (Or.inl ⟨hi, rfl⟩), below⟩
  · -- `link`: the merged set has top `k`, the other trees are untouched
    dsimp only at hi ⊢
    rcases (hrep i r').1 hi with ⟨ho, rfl⟩ | ⟨_, ho⟩
    · rw [hRr]
      exact ⟨below i (Or.inl ho), hkn, hPk'⟩
    · by_cases hrr : r' = r
      · subst hrr
        rw [hRr]
        exact ⟨below i (Or.inr ho), hkn, hPk'⟩
      · rw [getN_set_ne (Ne.symm hrr)]
        obtain ⟨d1, d2, d3⟩ := h.link i r' ho
        have : t ≠ getN s.root r' := fun e => hrr (h.inj ho.self hr (e.symm.trans ht.symm))
        exact ⟨d1.link d2 hPt, d2, by rw [getN_set_ne this]; exact d3⟩
  · -- `top`: `root[r] = k` lies in the merged set, the other names keep their `root`
    dsimp only at hx ⊢
    by_cases hxr : x = r
    · subst hxr
      rw [hRr]
      exact (hrep k x).2 (Or.inl ⟨hck, rfl⟩)
    · rw [getN_set_ne (Ne.symm hxr)]
      rcases (hrep x x).1 hx with ⟨_, e⟩ | ⟨hnc, hxx⟩
      · exact absurd e hxr
      · exact (hrep _ x).2 (Or.inr ⟨fun hh => hnc ((h.top x hxx).unique hh ▸ hc), h.top x hxx⟩)

/-- `make_set (k)`, `root[k] = k`, `parent[k] = n`: a new tree and set; the old trees are untouched since parents
of vertices `< k` are `< k` or `n` (`hcl`) -/
theorem SetsOk.makeset {k : Nat} (h : SetsOk n k s) (hk : k < n)
    (hcl : ∀ y, y < k → getN s.parent y < k ∨ getN s.parent y = n) :
    SetsOk n (k + 1) (liuS0 n k s) ∧ Rep (liuS0 n k s).pp (k + 1) k k := by
  obtain ⟨rank, hv⟩ := h.uf
  have hks : k < s.pp.size := by
    rw [h.szu]
    exact hk
  have hrep := makeset_rep hv hks
  have hkk : Rep (s.pp.setIfInBounds k k) (k + 1) k k := (hrep k k).2 (Or.inl ⟨rfl, rfl⟩)
  refine ⟨{ szp := by simp [liuS0, h.szp]
            szu := by simp [liuS0, h.szu]
            szr := by simp [liuS0, h.szr]
            uf := ⟨rank, makeset_valid hv hks⟩
            link := fun i r hr => ?_
            top := fun r hr => ?_ }, hkk⟩
  · dsimp only [liuS0]
    rcases (hrep i r).1 hr with ⟨rfl, rfl⟩ | ⟨_, ho⟩
    · rw [getN_set_self (h.szr ▸ hk)]
      exact ⟨Desc.refl _, hk, getN_set_self (h.szp ▸ hk)⟩
    · -- the tree of an old element lies below `k`, so it is not touched
      rw [getN_set_ne (by have := ho.is_root.1; omega)]
      obtain ⟨t1, t2, t3⟩ := h.link i r ho
      obtain ⟨d, hlt⟩ := t1.congr_on (par' := getN (s.parent.setIfInBounds k n)) (· < k) ho.lt fun y _ hy hd =>
        ⟨getN_set_ne (by omega), (hcl y hy).resolve_right fun e => by
          rw [e] at hd
          have := hd.top
          omega⟩
      exact ⟨d, t2, by rw [getN_set_ne (by omega)]; exact t3⟩
  · show Rep (s.pp.setIfInBounds k k) (k + 1) (getN (s.root.setIfInBounds k k) r) r
    rcases (hrep r r).1 hr with ⟨rfl, _⟩ | ⟨hlt, ho⟩
    · rw [getN_set_self (h.szr ▸ hk)]
      exact hkk
    · rw [getN_set_ne (by omega)]
      exact (hrep _ r).2 (Or.inr ⟨(h.top r ho).lt, h.top r ho⟩)

end sets

section liu
variable {G : Nat → Nat → Bool} {par : Nat → Nat} {n : Nat}

/-- between columns, `k` columns done: the forest on `0..k-1` is the etree cut off at `k` -/
structure LB (par : Nat → Nat) (n k : Nat) (s : LiuSt) : Prop extends SetsOk n k s where
  shape : ∀ j, j < k → getN s.parent j = if par j < k then par j else n

/-- inside column `k`; `done` = rows handled so far.  `shape`: the pointer of `j` is final, or `j` is still a root
and its true parent is `≥ k`; `cs`: `cset` names the set of `k`; `dn`: the rows done hang below `k`. -/
structure LI (par : Nat → Nat) (n k : Nat) (done : List Nat) (s : LiuSt) : Prop extends SetsOk n (k + 1) s where
  shape : ∀ j, j ≤ k → (getN s.parent j = par j ∧ par j ≤ k) ∨ (getN s.parent j = n ∧ k ≤ par j)
  cs : Rep s.pp (k + 1) k s.cset
  dn : ∀ i, i ∈ done → i < k → Desc (getN s.parent) n k i

theorem liu_col_start (he : IsEtree G n par) {k : Nat} {s : LiuSt} (hk : k < n) (h : LB par n k s) :
    LI par n k [] (liuS0 n k s) := by
  obtain ⟨hsets, hcs⟩ := h.toSetsOk.makeset hk fun y hy => by
    have := h.shape y hy
    split at this <;> omega
  refine { toSetsOk := hsets, shape := fun j hj => ?_, cs := hcs, dn := fun i hi => nomatch hi }
  show (getN (s.parent.setIfInBounds k n) j = par j ∧ par j ≤ k) ∨
    (getN (s.parent.setIfInBounds k n) j = n ∧ k ≤ par j)
  rcases Nat.lt_or_eq_of_le hj with hjk | rfl
  · rw [getN_set_ne (by omega)]
    have := h.shape j hjk
    split at this
    · exact Or.inl ⟨this, by omega⟩
    · exact Or.inr ⟨this, by omega⟩
  · exact Or.inr ⟨getN_set_self (h.szp ▸ hk), Nat.le_of_lt (he j hk).1⟩

/-- a path of the loop's forest from some `x ≤ k` is a path of the etree and ends at or below `k` -/
theorem LI.desc_par {k : Nat} {done : List Nat} {s : LiuSt} (h : LI par n k done s) {t x : Nat}
    (hd : Desc (getN s.parent) n t x) (hx : x ≤ k) (ht : t < n) : Desc par n t x ∧ t ≤ k :=
  hd.congr_on (· ≤ k) hx fun y _ hy hd' => by
    rcases h.shape y hy with ⟨e1, e2⟩ | ⟨e1, _⟩
    · exact ⟨e1.symm, e1 ▸ e2⟩
    · rw [e1] at hd'
      have := hd'.top
      omega

theorem LI.parent_k (he : IsEtree G n par) {k : Nat} {done : List Nat} {s : LiuSt} (hk : k < n)
    (h : LI par n k done s) : getN s.parent k = n := by
  rcases h.shape k (Nat.le_refl _) with ⟨_, e2⟩ | ⟨e1, _⟩
  · have := (he k hk).1
    omega
  · exact e1

theorem LI.root_cset (he : IsEtree G n par) {k : Nat} {done : List Nat} {s : LiuSt} (hk : k < n)
    (h : LI par n k done s) : getN s.root s.cset = k := by
  obtain ⟨t1, t2, _⟩ := h.link k s.cset h.cs
  exact (t1.eq_of_top (h.parent_k he hk) t2).symm

/-- three cases: `row ≥ k` is skipped; the tree of `row` has top `k` already (only `find` acts); otherwise its top
`t` is hung below `k`, and `k` is the etree parent of `t` (`hpart`: row `k` has a fill entry at `t` by
`row_subtree_bwd`, and `t` had no parent `≤ k` so far). -/
theorem liu_edge (hs : ∀ a b, G a b = G b a) (he : IsEtree G n par) {k row : Nat} {done : List Nat} {s : LiuSt}
    (hk : k < n) (hrow : row < k → G k row = true) (h : LI par n k done s) :
    LI par n k (row :: done) (liuEdge k row s) := by
  rw [liuEdge_eq]
  by_cases hkr : k ≤ row
  · rw [if_pos hkr]
    exact { h with dn := fun i hi hik => (List.mem_cons.1 hi).elim (fun e => by omega) (h.dn i · hik) }
  · rw [if_neg hkr]
    have hrk : row < k := by omega
    obtain ⟨h1, hr0, f4⟩ := h.toSetsOk.find (row := row) (by omega)
    generalize ufFind row s.pp = U at h1 hr0 f4 ⊢
    obtain ⟨rset, pp1⟩ := U
    simp only at h1 hr0 f4 ⊢
    obtain ⟨t1, t2, t3⟩ := h.link row rset hr0
    have hrc := h.root_cset he hk
    have hcs1 : Rep pp1 (k + 1) k s.cset := (f4 _ _).2 h.cs
    by_cases htk : getN s.root rset = k
    · rw [if_neg (fun hne => hne htk)]
      exact { toSetsOk := h1, shape := h.shape, cs := hcs1, dn := fun i hi hik =>
        (List.mem_cons.1 hi).elim (fun e => by rw [e, ← htk]; exact t1) (h.dn i · hik) }
    · rw [if_pos htk]
      obtain ⟨hdpar, htle⟩ := h.desc_par t1 (Nat.le_of_lt hrk) t2
      have hEt : fill G n k (getN s.root rset) = true :=
        row_subtree_bwd hs he hdpar (fill_mono (Nat.zero_le n) (hrow hrk)) hrk (by omega) hk
      have hpart : par (getN s.root rset) = k := by
        have hle := he.par_le t2 (by omega) hEt
        rcases h.shape _ htle with ⟨e1, e2⟩ | ⟨_, e2⟩
        · rw [t3] at e1
          omega
        · omega
      obtain ⟨hsets, hcs, below⟩ := h1.union (c := s.cset) (r := rset) ((f4 _ _).2 h.cs.self) ((f4 _ _).2 hr0.self)
        fun e => htk (e ▸ hrc)
      -- `SetsOk.union` writes `root[cset]` where the loop writes `col`
      simp only [hrc] at hsets hcs below
      refine { toSetsOk := hsets, shape := fun j hj => ?_, cs := hcs k hcs1, dn := fun i hi hik => ?_ }
      · show (getN (s.parent.setIfInBounds (getN s.root rset) k) j = par j ∧ par j ≤ k) ∨
          (getN (s.parent.setIfInBounds (getN s.root rset) k) j = n ∧ k ≤ par j)
        by_cases hjt : getN s.root rset = j
        · subst hjt
          exact Or.inl ⟨by rw [getN_set_self (h.szp ▸ t2), hpart], Nat.le_of_eq hpart⟩
        · rw [getN_set_ne hjt]
          exact h.shape j hj
      · show Desc (getN (s.parent.setIfInBounds (getN s.root rset) k)) n k i
        rcases List.mem_cons.1 hi with rfl | hi'
        · exact below i (Or.inr ((f4 _ _).2 hr0))
        · exact (h.dn i hi' hik).link hk t3

/-- a path of the etree that ends below `k` is in the loop's forest already -/
theorem LI.par_desc (he : IsEtree G n par) {k : Nat} {done : List Nat} {s : LiuSt} (h : LI par n k done s) {j i : Nat}
    (hd : Desc par n j i) (hj : j < k) : Desc (getN s.parent) n j i :=
  (hd.congr_on (par' := getN s.parent) (fun _ => True) trivial fun y hy _ hd' => by
    have h1 := desc_le he hd'
    have h2 := (he y hy).1
    rcases h.shape y (by omega) with ⟨e1, _⟩ | ⟨_, e2⟩
    · exact ⟨e1, trivial⟩
    · omega).1

theorem liu_col_end (hs : ∀ a b, G a b = G b a) (he : IsEtree G n par) {k : Nat} {done : List Nat} {s : LiuSt}
    (hk : k < n) (hdone : ∀ i, i < k → G k i = true → i ∈ done) (h : LI par n k done s) :
    LB par n (k + 1) s := by
  refine ⟨h.toSetsOk, fun j hj => ?_⟩
  rcases h.shape j (Nat.le_of_lt_succ hj) with ⟨e1, e2⟩ | ⟨e1, e2⟩
  · rw [if_pos (Nat.lt_succ_of_le e2)]
    exact e1
  · -- `parent[j] = n` with `par j = k` cannot be: row `k` has an entry below `j`, so `j` hangs below `k`
    have hnlt : ¬ par j < k + 1 := fun hlt => by
      have hpk : par j = k := Nat.le_antisymm (Nat.le_of_lt_succ hlt) e2
      obtain ⟨a1, _, a3, _⟩ := he j (Nat.lt_of_lt_of_le hj hk)
      rw [hpk] at a1 a3
      obtain ⟨i, hi1, hi2, hi3⟩ := row_subtree_fwd hs he (a3 hk) a1 hk
      have hdk := h.dn i (hdone i (Nat.lt_of_le_of_lt hi1 a1) hi2) (Nat.lt_of_le_of_lt hi1 a1)
      rcases Desc.chain (h.par_desc he hi3 a1) hdk with hd | hd
      · have := hd.eq_of_top (h.parent_k he hk) (Nat.lt_of_lt_of_le hj hk)
        omega
      · have := hd.eq_of_top e1 hk
        omega
    rw [if_neg hnlt]
    exact e1

-- (`liu_edge` conses each row onto `done`, hence `rows.reverse`)
theorem liu_rows (hs : ∀ a b, G a b = G b a) (he : IsEtree G n par) {k : Nat} (hk : k < n) :
    ∀ (rows done : List Nat) (s : LiuSt), (∀ row, row ∈ rows → row < k → G k row = true) →
      LI par n k done s →
      LI par n k (rows.reverse ++ done) (rows.foldl (fun s row => liuEdge k row s) s) := by
  intro rows
  induction rows with
  | nil =>
      intro done s _ h
      simpa using h
  | cons r rows ih =>
      intro done s hG h
      have h1 := liu_edge hs he hk (hG r (by simp)) h
      have := ih (r :: done) _ (fun row hrow => hG row (List.mem_cons_of_mem _ hrow)) h1
      simpa using this

end liu

theorem liu_col (rowsOf : Nat → List Nat) {par : Nat → Nat} {n : Nat} (he : IsEtree (liuGraph rowsOf) n par)
    {k : Nat} {s : LiuSt} (hk : k < n) (h : LB par n k s) : LB par n (k + 1) (liuCol n k (rowsOf k) s) := by
  rw [liuCol_eq]
  have hs := liuGraph_symm rowsOf
  have h0 := liu_col_start he hk h
  have h1 := liu_rows hs he hk (rowsOf k) [] _ (fun row hrow hlt => (liuGraph_lt rowsOf hlt).2 hrow) h0
  refine liu_col_end hs he hk ?_ h1
  intro i hi hG
  have := (liuGraph_lt rowsOf hi).1 hG
  simp [this]

theorem liu_init_LB {par : Nat → Nat} (n : Nat) : LB par n 0 (liuInit n) := by
  refine { szp := by simp [liuInit]
           szu := by simp [liuInit]
           szr := by simp [liuInit]
           uf := ⟨fun x => x, by simp [liuInit], fun i hi => by omega⟩
           link := ?_
           top := ?_
           shape := fun j hj => by omega }
  · intro i r hr
    have := hr.lt
    omega
  · intro r hr
    have := hr.lt
    omega

theorem liuRun_eq_ref (n : Nat) (rowsOf : Nat → List Nat) :
    (liuRun n rowsOf).parent = etreeRef n (liuGraph rowsOf) := by
  have he := etreeRef_isEtree n (liuGraph rowsOf)
  have hfin : LB (getN (etreeRef n (liuGraph rowsOf))) n n (liuRun n rowsOf) :=
    foldl_range_inv (fun s col => liuCol n col (rowsOf col) s) (LB (getN (etreeRef n (liuGraph rowsOf))) n)
      (liuInit n) n (liu_init_LB n) (fun k a hk h => liu_col rowsOf he hk h)
  refine eq_etreeRef_of_isEtree hfin.szp (isEtree_congr_par (fun j hj => ?_) he)
  rw [hfin.shape j hj]
  split
  · rfl
  · have := (he j hj).2.1
    omega

theorem liuRun_increasing (n : Nat) (rowsOf : Nat → List Nat) : Increasing n (liuRun n rowsOf).parent := by
  rw [liuRun_eq_ref]
  exact ⟨etreeRef_size n, fun v hv => ⟨(etreeRef_isEtree n _ v hv).1, (etreeRef_isEtree n _ v hv).2.1⟩⟩

end Slu.Pre
