/- the four sweeps over all supernodes: the elimination order is the supernode number (upward) or its mirror image
   (downward), and the factors are block triangular with respect to it -/
import SluVerif.Proofs.BlasTrsvStep
namespace Slu.Blas
open Finset

theorem sweepUp_LN {L : SCP} (hL : LOk L) (one : Int) (x : Array Rat) (hx : x.size = L.n) :
    (sweepUp L (stepLN one) x).size = L.n ∧
    ∀ i < L.n, ∑ j ∈ range L.n, MLg one L i j * rd (sweepUp L (stepLN one) x) j = rd x i :=
  solveN_foldl (ord := supOf L) (M := MLg one L) rd (fun x => x.size = L.n)
    (fun x k => stepLN one (snk L k) x) x (hord := hL.sup_lt) (hblk := mem_block_iff hL)
    (hM := fun _ _ _ hj => MLg_eq_zero hL one hj) (hs := hx) fun k hk xk hxk => by
      obtain ⟨s1, s2⟩ := stepLN_spec one (hL.sn k hk) xk hxk
      exact ⟨s1.trans hxk, StepN.congr s2 fun i j hj => MLg_of_mem hL one hk i hj⟩

theorem sweepDown_UN {L : SCP} (hL : LOk L) (one : Int) (U : NCP) (hU : UOk one L U) (x : Array Rat)
    (hx : x.size = L.n) :
    (sweepDown L (stepUN one U) x).size = L.n ∧
    ∀ i < L.n, ∑ j ∈ range L.n, MUg one L U i j * rd (sweepDown L (stepUN one U) x) j = rd x i :=
  solveN_foldl (ord := fun j => L.numSnodes - 1 - supOf L j) (M := MUg one L U) rd
    (fun x => x.size = L.n) (fun x k => stepUN one U (snk L (L.numSnodes - 1 - k)) x) x
    (hord := fun j hj => by have := hL.sup_lt j hj; omega) (hblk := mem_block_rev hL)
    (hM := fun i hi j hj h => MUg_eq_zero hL hU hj (by have := hL.sup_lt i hi; omega)) (hs := hx)
    fun k hk xk hxk => by
      have hk' : L.numSnodes - 1 - k < L.numSnodes := by omega
      obtain ⟨s1, s2⟩ := stepUN_spec one U (hL.sn _ hk') xk hxk (hU.colOk hL _ hk') (hU.diag _ hk')
      exact ⟨s1.trans hxk, StepN.congr s2 fun i j hj => MUg_of_mem hL one U hk' i hj⟩

theorem sweepDown_LT {L : SCP} (hL : LOk L) (one : Int) (x : Array Rat) (hx : x.size = L.n) :
    (sweepDown L (stepLT one) x).size = L.n ∧
    ∀ i < L.n, ∑ j ∈ range L.n, MLg one L j i * rd (sweepDown L (stepLT one) x) j = rd x i :=
  solveT_foldl (ord := fun j => L.numSnodes - 1 - supOf L j) (M := fun i j => MLg one L j i) rd
    (fun x => x.size = L.n) (fun x k => stepLT one (snk L (L.numSnodes - 1 - k)) x) x
    (hord := fun j hj => by have := hL.sup_lt j hj; omega) (hblk := mem_block_rev hL)
    (hM := fun i hi j hj h => MLg_eq_zero hL one hi (by have := hL.sup_lt i hi; omega)) (hs := hx)
    fun k hk xk hxk => by
      have hk' : L.numSnodes - 1 - k < L.numSnodes := by omega
      obtain ⟨s1, s2⟩ := stepLT_spec one (hL.sn _ hk') xk hxk
      exact ⟨s1.trans hxk, StepT.congr s2 fun i hi j => MLg_of_mem hL one hk' j hi⟩

theorem sweepUp_UT {L : SCP} (hL : LOk L) (one : Int) (U : NCP) (hU : UOk one L U) (x : Array Rat) (hx : x.size = L.n) :
    (sweepUp L (stepUT one U) x).size = L.n ∧
    ∀ i < L.n, ∑ j ∈ range L.n, MUg one L U j i * rd (sweepUp L (stepUT one U) x) j = rd x i :=
  solveT_foldl (ord := supOf L) (M := fun i j => MUg one L U j i) rd (fun x => x.size = L.n)
    (fun x k => stepUT one U (snk L k) x) x (hord := hL.sup_lt) (hblk := mem_block_iff hL)
    (hM := fun _ hi _ _ => MUg_eq_zero hL hU hi) (hs := hx) fun k hk xk hxk => by
      obtain ⟨s1, s2⟩ := stepUT_spec one U (hL.sn k hk) xk hxk (hU.colOk hL k hk) (hU.diag k hk)
      exact ⟨s1.trans hxk, StepT.congr s2 fun i hi j => MUg_of_mem hL one U hk j hi⟩

end Slu.Blas
