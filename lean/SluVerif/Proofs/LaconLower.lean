/- est ≥ ‖M·(e/n)‖₁ : in exact arithmetic the estimate never decreases (Hager's inequality) -/
import SluVerif.Proofs.LaconBasic
import SluVerif.Proofs.LaconTerm

namespace Slu
open Finset

theorem sgn_mul_self (t : Rat) : sgn t * t = |t| := by
  unfold sgn
  split
  · rename_i h
    rw [one_mul, abs_of_nonneg h]
  · rename_i h
    rw [abs_of_neg (not_le.mp h)]
    ring

theorem abs_sgn (t : Rat) : |sgn t| = 1 := by
  unfold sgn
  split <;> simp

theorem asum_matVec_unit (n : Nat) (M : Nat → Nat → Rat) (j : Nat) (hj : j < n) :
    asum n (matVec n M (unitVec n j)) = ∑ i ∈ range n, |M i j| := by
  unfold matVec
  rw [asum_rmk]
  apply Finset.sum_congr rfl
  intro i _
  rw [rsum_eq]
  have : ∀ k ∈ range n, M i k * rget (unitVec n j) k = if k = j then M i j else 0 := by
    intro k hk
    unfold unitVec
    rw [rget_rmk_lt (mem_range.mp hk)]
    split
    · rename_i h
      rw [h, mul_one]
    · rw [mul_zero]
  rw [Finset.sum_congr rfl this, Finset.sum_ite_eq', if_pos (mem_range.mpr hj)]

/-- Hager's inequality: with `z = Mᵀ sign(M p)`, `‖p‖₁ ≤ 1` and `j` an index of maximal `|z_j|`,
`‖M p‖₁ ≤ ‖M e_j‖₁`. -/
theorem hager_step (n : Nat) (hn : 1 ≤ n) (M : Nat → Nat → Rat) (p : RVec) (hp : asum n p ≤ 1) :
    asum n (matVec n M p)
      ≤ asum n (matVec n M (unitVec n (idamax n (matVecT n M (signVec n (matVec n M p)))))) := by
  set y := matVec n M p with hy
  set z := matVecT n M (signVec n y) with hz
  set j := idamax n z with hjdef
  have hj : j < n := idamax_lt hn z
  have hyi : ∀ i ∈ range n, rget y i = ∑ k ∈ range n, M i k * rget p k := by
    intro i hi
    rw [hy]
    unfold matVec
    rw [rget_rmk_lt (mem_range.mp hi), rsum_eq]
  have hzk : ∀ k ∈ range n, rget z k = ∑ i ∈ range n, M i k * sgn (rget y i) := by
    intro k hk
    rw [hz]
    unfold matVecT
    rw [rget_rmk_lt (mem_range.mp hk), rsum_eq]
    apply Finset.sum_congr rfl
    intro i hi
    unfold signVec
    rw [rget_rmk_lt (mem_range.mp hi)]
  -- `‖y‖₁ = pᵀz ≤ ‖p‖₁·|z_j| ≤ |z_j| ≤ Σ_i |M i j| = ‖M e_j‖₁`
  have h1 : asum n y = ∑ k ∈ range n, rget p k * rget z k := by
    rw [asum_eq]
    calc ∑ i ∈ range n, |rget y i| = ∑ i ∈ range n, sgn (rget y i) * rget y i :=
          Finset.sum_congr rfl fun i _ => (sgn_mul_self _).symm
      _ = ∑ i ∈ range n, ∑ k ∈ range n, sgn (rget y i) * (M i k * rget p k) := by
          apply Finset.sum_congr rfl
          intro i hi
          rw [← Finset.mul_sum, ← hyi i hi]
      _ = ∑ k ∈ range n, ∑ i ∈ range n, sgn (rget y i) * (M i k * rget p k) := Finset.sum_comm
      _ = ∑ k ∈ range n, rget p k * rget z k := by
          apply Finset.sum_congr rfl
          intro k hk
          rw [hzk k hk, Finset.mul_sum]
          apply Finset.sum_congr rfl
          intro i _
          ring
  have h2 : ∑ k ∈ range n, rget p k * rget z k ≤ |rget z j| := by
    calc ∑ k ∈ range n, rget p k * rget z k ≤ ∑ k ∈ range n, |rget p k| * |rget z j| := by
          apply Finset.sum_le_sum
          intro k hk
          calc rget p k * rget z k ≤ |rget p k * rget z k| := le_abs_self _
            _ = |rget p k| * |rget z k| := abs_mul _ _
            _ ≤ |rget p k| * |rget z j| :=
                mul_le_mul_of_nonneg_left (idamax_max n z k (mem_range.mp hk)) (abs_nonneg _)
      _ = (∑ k ∈ range n, |rget p k|) * |rget z j| := by rw [Finset.sum_mul]
      _ ≤ 1 * |rget z j| := by
          apply mul_le_mul_of_nonneg_right _ (abs_nonneg _)
          rw [← asum_eq]
          exact hp
      _ = |rget z j| := one_mul _
  have h3 : |rget z j| ≤ ∑ i ∈ range n, |M i j| := by
    rw [hzk j (mem_range.mpr hj)]
    calc |∑ i ∈ range n, M i j * sgn (rget y i)| ≤ ∑ i ∈ range n, |M i j * sgn (rget y i)| :=
          Finset.abs_sum_le_sum_abs _ _
      _ = ∑ i ∈ range n, |M i j| := by
          apply Finset.sum_congr rfl
          intro i _
          rw [abs_mul, abs_sgn, mul_one]
  rw [asum_matVec_unit n M j hj, h1]
  exact le_trans h2 h3

/-- `e/n` -/
def constVec (n : Nat) : RVec := rmk n fun _ => 1 / (n : Rat)

/-- reply to a `kase = 2` request: `x = Mᵀ sign(M p)` for a probe `p` with `‖p‖₁ ≤ 1`, `est = ‖M p‖₁` -/
def AfterT (n : Nat) (M : Nat → Nat → Rat) (io : LaconIO) : Prop :=
  ∃ p : RVec, asum n p ≤ 1 ∧ io.est = asum n (matVec n M p) ∧ io.x = matVecT n M (signVec n (matVec n M p))

/-- at the entry of a call (`x` already overwritten by the operator unless `kase = 0`): `e0`, not above the first
candidate `‖M e/n‖₁`, is a lower bound of `est` -/
def LowInv (n : Nat) (M : Nat → Nat → Rat) (e0 : Rat) (st : LaconSt) (io : LaconIO) : Prop :=
  match st.jump with
  | 2 => e0 ≤ io.est ∧ AfterT n M io
  | 3 => e0 ≤ io.est ∧ io.x = matVec n M (unitVec n st.j) ∧ io.est ≤ asum n io.x
  | 4 => e0 ≤ io.est ∧ AfterT n M io
  | 5 => e0 ≤ io.est
  | _ => io.kase ≠ 0 → io.x = matVec n M (constVec n)

/-- `est` is only replaced by something at least as large (L70: invariant of label 3; L140: its test), and the unit
vector probed next does at least as well as the last probe (`hager_step`) -/
theorem laconCall_lower (n : Nat) (hn : 1 ≤ n) (M : Nat → Nat → Rat) (e0 : Rat)
    (he0 : e0 ≤ asum n (matVec n M (constVec n))) :
    LaconStep n (matVec n M) (matVecT n M) (LowInv n M e0) (fun io => e0 ≤ io.est) := by
  intro st io h
  -- the unit vector at the largest component of `Mᵀ sign(M p)` does at least as well as `p`
  have unit : AfterT n M io → io.est ≤ asum n (matVec n M (unitVec n (idamax n io.x))) := by
    rintro ⟨p, hp, hest, hx⟩
    rw [hest, hx]
    exact hager_step n hn M p hp
  -- the reply to the sign vector of `M p`, for a probe `p` whose image is the new estimate
  have sign : ∀ {v : RVec} {isgn : Array Int} {p : RVec}, asum n p ≤ 1 → io.x = matVec n M p →
      AfterT n M { v, x := matVecT n M (signVec n io.x), isgn, est := asum n io.x, kase := 2 } :=
    fun {_ _ p} hp hx => ⟨p, hp, by rw [hx], by rw [hx]⟩
  have other : io.kase ≠ 0 → st.jump ≠ 2 → st.jump ≠ 3 → st.jump ≠ 4 → st.jump ≠ 5 →
      io.x = matVec n M (constVec n) := by
    intro hk h2 h3 h4 h5
    unfold LowInv at h
    split at h
    next hj => exact absurd hj h2
    next hj => exact absurd hj h3
    next hj => exact absurd hj h4
    next hj => exact absurd hj h5
    next => exact h hk
  apply laconCall_cases n (matVec n M) (matVecT n M) st io
  -- label 1: `LowInv` is `kase ≠ 0 → x = M·(e/n)`, and the answered `x` is `matVec n M (e/n)` by definition
  case start => exact fun _ _ => rfl
  case L40 =>
    intro _ hj
    rw [LowInv, hj] at h
    exact ⟨h.1, rfl, unit h.2⟩
  case L70 =>
    intro _ hj
    rw [LowInv, hj] at h
    -- the new state has `jump = 5`, where `LowInv` is `e0 ≤ est`
    exact le_trans h.1 h.2.2
  case L90 =>
    intro _ hj _
    rw [LowInv, hj] at h
    exact ⟨le_trans h.1 h.2.2, sign (asum_unitVec_le n _) h.2.1⟩
  case L110 =>
    intro _ hj _
    rw [LowInv, hj] at h
    exact ⟨h.1, rfl, unit h.2⟩
  case L110' =>
    intro _ hj
    rw [LowInv, hj] at h
    exact h.1
  case L140 =>
    intro _ hj hlt
    rw [LowInv, hj] at h
    exact le_trans h (le_of_lt hlt)
  case L140' =>
    intro _ hj
    rw [LowInv, hj] at h
    exact h
  case L20 =>
    intro hk h2 h3 h4 h5 h1
    subst h1
    rwa [← asum_one, other hk h2 h3 h4 h5]
  case L20' =>
    intro hk h2 h3 h4 h5
    have h' := other hk h2 h3 h4 h5
    exact ⟨by rwa [h'], sign (le_of_eq (asum_const n hn)) h'⟩

end Slu
