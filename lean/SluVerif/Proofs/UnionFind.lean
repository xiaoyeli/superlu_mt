/- the library's disjoint-set `find` with path halving returns the root, keeps the structure valid and the
   partition unchanged; what `make_set` and `make_link` do to both.  `m` = number of elements in use (the arrays
   are longer: Liu's algorithm activates the elements one by one). -/
import SluVerif.Proofs.EtreeBasic
namespace Slu.Pre

/-- pointers of the elements `0..m-1` stay inside and climb a (ghost) rank until a self-loop, the set's name -/
def UFValid (pp : Array Nat) (m : Nat) (rank : Nat → Nat) : Prop :=
  m ≤ pp.size ∧ ∀ i, i < m → getN pp i < m ∧ (getN pp i ≠ i → rank i < rank (getN pp i))

/-- following the pointers from `i` ends, after `d` steps, in the self-loop `r` -/
inductive RepD (pp : Array Nat) (m : Nat) : Nat → Nat → Nat → Prop
  | root {r : Nat} : r < m → getN pp r = r → RepD pp m r r 0
  | step {i r d : Nat} : i < m → getN pp i ≠ i → RepD pp m (getN pp i) r d → RepD pp m i r (d + 1)

def Rep (pp : Array Nat) (m i r : Nat) : Prop := ∃ d, RepD pp m i r d

theorem Rep.root {pp : Array Nat} {m r : Nat} (h1 : r < m) (h2 : getN pp r = r) : Rep pp m r r :=
  ⟨0, RepD.root h1 h2⟩

theorem Rep.step {pp : Array Nat} {m i r : Nat} (h1 : i < m) (h2 : getN pp i ≠ i) (h3 : Rep pp m (getN pp i) r) :
    Rep pp m i r := by
  obtain ⟨d, hd⟩ := h3
  exact ⟨d + 1, RepD.step h1 h2 hd⟩

theorem RepD.is_root {pp : Array Nat} {m i r d : Nat} (h : RepD pp m i r d) : r < m ∧ getN pp r = r := by
  induction h with
  | root h1 h2 => exact ⟨h1, h2⟩
  | step _ _ _ ih => exact ih

theorem Rep.is_root {pp : Array Nat} {m i r : Nat} (h : Rep pp m i r) : r < m ∧ getN pp r = r := by
  obtain ⟨d, hd⟩ := h
  exact hd.is_root

theorem RepD.lt {pp : Array Nat} {m i r d : Nat} (h : RepD pp m i r d) : i < m := by
  cases h with
  | root h1 _ => exact h1
  | step h1 _ _ => exact h1

theorem Rep.lt {pp : Array Nat} {m i r : Nat} (h : Rep pp m i r) : i < m := by
  obtain ⟨d, hd⟩ := h
  exact hd.lt

theorem RepD.unique {pp : Array Nat} {m i r r' d d' : Nat} (h : RepD pp m i r d) (h' : RepD pp m i r' d') :
    r = r' ∧ d = d' := by
  induction h generalizing d' with
  | root h1 h2 =>
      cases h' with
      | root => exact ⟨rfl, rfl⟩
      | step _ hne _ => exact absurd h2 hne
  | step h1 hne _ ih =>
      cases h' with
      | root _ h2 => exact absurd h2 hne
      | step _ _ h3 =>
          obtain ⟨e1, e2⟩ := ih h3
          exact ⟨e1, by omega⟩

theorem Rep.unique {pp : Array Nat} {m i r r' : Nat} (h : Rep pp m i r) (h' : Rep pp m i r') : r = r' := by
  obtain ⟨d, hd⟩ := h
  obtain ⟨d', hd'⟩ := h'
  exact (hd.unique hd').1

theorem Rep.root_or_step {pp : Array Nat} {m i r : Nat} (h : Rep pp m i r) :
    (i = r ∧ getN pp r = r) ∨ (getN pp i ≠ i ∧ Rep pp m (getN pp i) r) := by
  obtain ⟨d, hd⟩ := h
  cases hd with
  | root h1 h2 => exact Or.inl ⟨rfl, h2⟩
  | step _ h2 h3 => exact Or.inr ⟨h2, ⟨_, h3⟩⟩

theorem Rep.self {pp : Array Nat} {m i r : Nat} (h : Rep pp m i r) : Rep pp m r r :=
  Rep.root h.is_root.1 h.is_root.2

/-- `Rep` is single-valued, so a total and sound description `Q` of it is complete -/
theorem rep_iff_of_imp {pp : Array Nat} {m : Nat} {Q : Nat → Nat → Prop}
    (htot : ∀ i, i < m → ∃ r, Q i r) (himp : ∀ i r, Q i r → Rep pp m i r) :
    ∀ i r, Rep pp m i r ↔ Q i r := by
  refine fun i r => ⟨fun h => ?_, himp i r⟩
  obtain ⟨r', hq⟩ := htot i h.lt
  rw [h.unique (himp i r' hq)]
  exact hq

/-- a representative survives changes outside its set and more elements (`m ≤ m'`, for `make_set`) -/
theorem Rep.frame {pp pp' : Array Nat} {m m' i r : Nat} (hm : m ≤ m') (h : Rep pp m i r)
    (hag : ∀ x, Rep pp m x r → getN pp' x = getN pp x) : Rep pp' m' i r := by
  obtain ⟨d, hd⟩ := h
  induction hd with
  | root h1 h2 => exact Rep.root (by omega) (by rw [hag _ (Rep.root h1 h2)]; exact h2)
  | step h1 hne hd ih =>
      have e := hag _ (Rep.step h1 hne ⟨_, hd⟩)
      exact Rep.step (by omega)
        (by rw [e]; exact hne)
        (by rw [e]; exact ih hag)

theorem UFValid.rank_mono {pp : Array Nat} {m : Nat} {rank : Nat → Nat} (hv : UFValid pp m rank) {i : Nat}
    (hi : i < m) :
    rank i ≤ rank (getN pp i) := by
  by_cases h : getN pp i = i
  · rw [h]
    exact Nat.le_refl _
  · exact Nat.le_of_lt ((hv.2 i hi).2 h)

theorem UFValid.total {pp : Array Nat} {m : Nat} {rank : Nat → Nat} (hv : UFValid pp m rank) :
    ∀ i, i < m → ∃ r, Rep pp m i r := by
  have : ∀ i, i ≤ m → i < m → ∃ r, Rep pp m i r := by
    refine rank_induction rank fun i _ ih hi => ?_
    by_cases h : getN pp i = i
    · exact ⟨i, Rep.root hi h⟩
    · obtain ⟨r, hr⟩ := ih _ (Nat.le_of_lt (hv.2 i hi).1) ((hv.2 i hi).2 h) (hv.2 i hi).1
      exact ⟨r, Rep.step hi h hr⟩
  exact fun i hi => this i (Nat.le_of_lt hi) hi

/-- the pointer path is duplicate free, so it is shorter than `m` -/
theorem RepD.depth_lt {pp : Array Nat} {m : Nat} {rank : Nat → Nat} (hv : UFValid pp m rank) {i r d : Nat}
    (h : RepD pp m i r d) : d < m := by
  have : ∃ l : List Nat, l.length = d + 1 ∧ (∀ x, x ∈ l → x < m ∧ rank i ≤ rank x) ∧
      l.Pairwise (fun a b => rank a < rank b) := by
    induction h with
    | @root r h1 _ => exact ⟨[r], rfl, by simp [h1], by simp⟩
    | @step i r d h1 hne _ ih =>
        obtain ⟨l, hl1, hl2, hl3⟩ := ih
        have hr := (hv.2 i h1).2 hne
        refine ⟨i :: l, by simp [hl1], ?_, ?_⟩
        · intro x hx
          rcases List.mem_cons.1 hx with h | h
          · subst h
            exact ⟨h1, Nat.le_refl _⟩
          · have := hl2 x h
            exact ⟨this.1, by omega⟩
        · refine List.Pairwise.cons ?_ hl3
          intro x hx
          have := (hl2 x hx).2
          omega
  obtain ⟨l, hl1, hl2, hl3⟩ := this
  have hnd : l.Nodup := by
    unfold List.Nodup
    refine List.Pairwise.imp ?_ hl3
    intro a b hab he
    subst he
    omega
  have hsub : l ⊆ List.range m := by
    intro x hx
    exact List.mem_range.2 (hl2 x hx).1
  have := hnd.length_le_of_subset hsub
  rw [List.length_range] at this
  omega

/-- the halving step `pp[i] = pp[pp[i]]` -/
theorem halve_valid {pp : Array Nat} {m : Nat} {rank : Nat → Nat} (hv : UFValid pp m rank) {i : Nat} (hi : i < m) :
    UFValid (pp.setIfInBounds i (getN pp (getN pp i))) m rank := by
  refine ⟨by simpa using hv.1, ?_⟩
  intro j hj
  simp only [getN_set]
  have hp := (hv.2 i hi).1
  have hg := (hv.2 _ hp).1
  split
  next he =>
    rw [← he.1]
    refine ⟨hg, fun hne => ?_⟩
    have h1 := hv.rank_mono hi
    by_cases h2 : getN pp (getN pp i) = getN pp i
    · rw [h2] at hne ⊢
      exact (hv.2 i hi).2 hne
    · have := (hv.2 _ hp).2 h2
      omega
  next => exact hv.2 j hj

/-- halving keeps representatives and lengthens no path; for `j` and `pp[j]`, since `i` now points to `pp[pp[i]]` -/
theorem halve_rep_fwd {pp : Array Nat} {m : Nat} {rank : Nat → Nat} (hv : UFValid pp m rank) {i : Nat} (hi : i < m)
    {j r d : Nat} (h : RepD pp m j r d) :
    (∃ d1, d1 ≤ d ∧ RepD (pp.setIfInBounds i (getN pp (getN pp i))) m j r d1) ∧
    (∃ d2, d2 ≤ d ∧ RepD (pp.setIfInBounds i (getN pp (getN pp i))) m (getN pp j) r d2) := by
  have his : i < pp.size := Nat.lt_of_lt_of_le hi hv.1
  induction h with
  | @root r h1 h2 =>
      have : RepD (pp.setIfInBounds i (getN pp (getN pp i))) m r r 0 := by
        apply RepD.root h1
        rw [getN_set]
        split
        next he => rw [he.1, h2, h2]
        next => exact h2
      rw [h2]
      exact ⟨⟨0, Nat.le_refl _, this⟩, ⟨0, Nat.le_refl _, this⟩⟩
  | @step j r d h1 hne _ ih =>
      obtain ⟨⟨d1, hd1, ih1⟩, ⟨d2, hd2, ih2⟩⟩ := ih
      refine ⟨?_, ⟨d1, by omega, ih1⟩⟩
      by_cases hji : i = j
      · subst hji
        have e : getN (pp.setIfInBounds i (getN pp (getN pp i))) i = getN pp (getN pp i) := getN_set_self his
        refine ⟨d2 + 1, by omega, RepD.step h1 ?_ (by rw [e]; exact ih2)⟩
        rw [e]
        intro hg
        have hp := (hv.2 i hi).1
        have r1 := (hv.2 i hi).2 hne
        have r2 := hv.rank_mono hp
        rw [hg] at r2
        omega
      · have e : getN (pp.setIfInBounds i (getN pp (getN pp i))) j = getN pp j := getN_set_ne hji
        exact ⟨d1 + 1, by omega, RepD.step h1
          (by rw [e]; exact hne)
          (by rw [e]; exact ih1)⟩

theorem halve_rep_iff {pp : Array Nat} {m : Nat} {rank : Nat → Nat} (hv : UFValid pp m rank) {i : Nat} (hi : i < m) :
    ∀ j r, Rep (pp.setIfInBounds i (getN pp (getN pp i))) m j r ↔ Rep pp m j r :=
  rep_iff_of_imp hv.total fun _ _ ⟨_, hd⟩ =>
    let ⟨⟨d1, _, h1⟩, _⟩ := halve_rep_fwd hv hi hd
    ⟨d1, h1⟩

/-- the `while (gp != p)` loop: fuel larger than the depth of `i` is enough -/
theorem findLoop_spec (m : Nat) (rank : Nat → Nat) :
    ∀ (fuel i : Nat) (pp : Array Nat) (r d : Nat), UFValid pp m rank → RepD pp m i r d → d < fuel →
      (findLoop fuel i (getN pp i) (getN pp (getN pp i)) pp).1 = r ∧
      UFValid (findLoop fuel i (getN pp i) (getN pp (getN pp i)) pp).2 m rank ∧
      (findLoop fuel i (getN pp i) (getN pp (getN pp i)) pp).2.size = pp.size ∧
      ∀ j r', Rep (findLoop fuel i (getN pp i) (getN pp (getN pp i)) pp).2 m j r' ↔ Rep pp m j r' := by
  intro fuel
  induction fuel with
  | zero =>
      omega
  | succ f ih =>
      intro i pp r d hv hrep hf
      have hi := hrep.lt
      have hp := (hv.2 i hi).1
      unfold findLoop
      by_cases hgp : getN pp (getN pp i) = getN pp i
      · rw [if_pos hgp]
        refine ⟨?_, hv, rfl, fun j r => Iff.rfl⟩
        have : Rep pp m i (getN pp i) := by
          by_cases hpi : getN pp i = i
          · rw [hpi]
            exact Rep.root hi hpi
          · exact Rep.step hi hpi (Rep.root hp hgp)
        exact this.unique ⟨d, hrep⟩
      · rw [if_neg hgp]
        have hpi : getN pp i ≠ i := by
          intro h
          apply hgp
          rw [h, h]
        -- i → p → gp, so d ≥ 2
        cases hrep with
        | root _ h2 => exact absurd h2 hpi
        | @step _ _ d1 _ _ hrep1 =>
          cases hrep1 with
          | root _ h2 => exact absurd h2 hgp
          | @step _ _ d2 _ _ hrep2 =>
            have hv1 := halve_valid hv hi
            have hs1 : (pp.setIfInBounds i (getN pp (getN pp i))).size = pp.size := by simp
            obtain ⟨⟨d', hd', hrep'⟩, _⟩ := halve_rep_fwd hv hi hrep2
            have := ih (getN pp (getN pp i)) (pp.setIfInBounds i (getN pp (getN pp i))) r d' hv1 hrep' (by omega)
            obtain ⟨h1, h2, h3, h4⟩ := this
            exact ⟨h1, h2, by rw [h3, hs1], fun j r => (h4 j r).trans (halve_rep_iff hv hi j r)⟩

/-- the model's fuel `pp.size + 1` is always enough -/
theorem ufFind_spec {pp : Array Nat} {m : Nat} {rank : Nat → Nat} (hv : UFValid pp m rank) {i r : Nat}
    (hrep : Rep pp m i r) :
    (ufFind i pp).1 = r ∧ UFValid (ufFind i pp).2 m rank ∧ (ufFind i pp).2.size = pp.size ∧
      ∀ j r', Rep (ufFind i pp).2 m j r' ↔ Rep pp m j r' := by
  obtain ⟨d, hd⟩ := hrep
  have := hd.depth_lt hv
  exact findLoop_spec m rank (pp.size + 1) i pp r d hv hd (by have := hv.1; omega)

/-- `make_set (k)`: `pp[k] = k`, elements in use `k → k + 1` -/
theorem makeset_valid {pp : Array Nat} {k : Nat} {rank : Nat → Nat} (hv : UFValid pp k rank) (hk : k < pp.size) :
    UFValid (pp.setIfInBounds k k) (k + 1) rank := by
  refine ⟨by simp only [Array.size_setIfInBounds]; omega, ?_⟩
  intro i hi
  rw [getN_set]
  by_cases hik : k = i
  · subst hik
    simp [hk]
  · simp only [hik, false_and, if_false]
    have := hv.2 i (by omega)
    exact ⟨by omega, this.2⟩

theorem makeset_rep {pp : Array Nat} {k : Nat} {rank : Nat → Nat} (hv : UFValid pp k rank) (hk : k < pp.size) :
    ∀ i r, Rep (pp.setIfInBounds k k) (k + 1) i r ↔ ((i = k ∧ r = k) ∨ (i < k ∧ Rep pp k i r)) := by
  refine rep_iff_of_imp (fun i hi => ?_) (fun i r h => ?_)
  · by_cases hik : i = k
    · exact ⟨k, Or.inl ⟨hik, rfl⟩⟩
    · obtain ⟨r, hr⟩ := hv.total i (by omega)
      exact ⟨r, Or.inr ⟨by omega, hr⟩⟩
  · rcases h with ⟨rfl, rfl⟩ | ⟨_, h⟩
    · exact Rep.root (by omega) (getN_set_self hk)
    · exact h.frame (Nat.le_succ k) fun x hx => getN_set_ne (by have := hx.lt; omega)

section link
variable {pp : Array Nat} {m : Nat} {rank : Nat → Nat} {c r0 : Nat}

/- `make_link (s, t, pp)`: `pp[s] = t` for two set names, here `c` and `r0` -/

theorem link_rep (hv : UFValid pp m rank) (hc : c < m) (hcr : getN pp c = c) (hr : r0 < m) (hrr : getN pp r0 = r0)
    (hne : c ≠ r0) :
    ∀ i r, Rep (pp.setIfInBounds c r0) m i r ↔
      ((Rep pp m i c ∧ r = r0) ∨ (¬ Rep pp m i c ∧ Rep pp m i r)) := by
  have hcs : c < pp.size := Nat.lt_of_lt_of_le hc hv.1
  -- an element whose representative is not `c` does not pass `c`
  have hoff : ∀ {x r}, Rep pp m x r → r ≠ c → getN (pp.setIfInBounds c r0) x = getN pp x :=
    fun hx hrc => getN_set_ne fun e => hrc ((e ▸ hx).unique (Rep.root hc hcr))
  refine rep_iff_of_imp (fun i hi => ?_) (fun i r h => ?_)
  · obtain ⟨r, hr⟩ := hv.total i hi
    by_cases hic : Rep pp m i c
    · exact ⟨r0, Or.inl ⟨hic, rfl⟩⟩
    · exact ⟨r, Or.inr ⟨hic, hr⟩⟩
  · rcases h with ⟨⟨d, hd⟩, hr0⟩ | ⟨hn, h⟩
    · rw [hr0]
      have h0 : Rep (pp.setIfInBounds c r0) m r0 r0 :=
        (Rep.root hr hrr).frame (Nat.le_refl m) fun x hx => hoff hx hne.symm
      generalize hcc : c = c' at hd
      induction hd with
      | root h1 h2 =>
          subst hcc
          exact Rep.step hc
            (by rw [getN_set_self hcs]; exact hne.symm)
            (by rw [getN_set_self hcs]; exact h0)
      | @step i _ _ h1 hne' _ ih =>
          subst hcc
          have e : getN (pp.setIfInBounds c r0) i = getN pp i := getN_set_ne fun e => hne' (e ▸ hcr)
          exact Rep.step h1
            (by rw [e]; exact hne')
            (by rw [e]; exact ih rfl)
    · exact h.frame (Nat.le_refl m) fun x hx => hoff hx fun e => hn (e ▸ h)

theorem link_valid (hv : UFValid pp m rank) (hc : c < m) (hcr : getN pp c = c) (hr : r0 < m) (hrr : getN pp r0 = r0)
    (hne : c ≠ r0) : ∃ rank', UFValid (pp.setIfInBounds c r0) m rank' := by
  classical
  have hcs : c < pp.size := Nat.lt_of_lt_of_le hc hv.1
  -- the new rank lifts everything outside the set of `c` above `c`, so the new pointer `c → r0` climbs
  refine ⟨fun x => rank x + (if Rep pp m x c then 0 else rank c + 1), by simpa using hv.1, ?_⟩
  intro i hi
  rw [getN_set]
  by_cases hic : c = i
  · subst hic
    simp only [hcs, and_self, if_true]
    refine ⟨hr, fun _ => ?_⟩
    have h1 : Rep pp m c c := Rep.root hc hcr
    have h2 : ¬ Rep pp m r0 c := fun h => hne (h.unique (Rep.root hr hrr))
    simp only [h1, h2, if_true, if_false]
    omega
  · simp only [hic, false_and, if_false]
    refine ⟨(hv.2 i hi).1, fun hne' => ?_⟩
    have hr' := (hv.2 i hi).2 hne'
    have hiff : Rep pp m i c ↔ Rep pp m (getN pp i) c := by
      constructor
      · intro h
        rcases h.root_or_step with ⟨e, _⟩ | ⟨_, h'⟩
        · exact absurd e.symm hic
        · exact h'
      · intro h
        exact Rep.step hi hne' h
    by_cases hb : Rep pp m i c
    · have hb' := hiff.1 hb
      simp only [hb, hb', if_true]
      omega
    · have hb' : ¬ Rep pp m (getN pp i) c := fun h => hb (hiff.2 h)
      simp only [hb, hb']
      omega

end link

end Slu.Pre
