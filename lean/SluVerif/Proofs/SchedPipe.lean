/-
The pipeline structure (C03): the unfinished proper descendants of a panel handed out form one chain of BUSY panels, the
panel path from its `bcol`, and it is completed only when they are all finished.  Third inductive invariant `PipeInv`.
-/
import SluVerif.Proofs.SchedProg

namespace Slu
open Slu.Gen
open Classical

/-- what a `bcol` (or `fb_cols[p]`) must satisfy for the wait chain from it to cover everything unfinished below `p` -/
def Covered (K : Cfg) (s : Sys) (b p : Nat) : Prop := ∀ q, Desc K q p → q ≠ p → stt s q ≠ DONE → Desc K b q

theorem Covered.mono {K : Cfg} {s s' : Sys} {b p : Nat} (h : Covered K s b p) (hd : ∀ q, stt s' q ≠ DONE → stt s q ≠ DONE) :
    Covered K s' b p := fun q hq hne hnd => h q hq hne (hd q hnd)

inductive ColReach (c : PanelCfg) : Nat → Nat → Prop
  | refl (x : Nat) : ColReach c x x
  | step (x y : Nat) (hx : x < c.n) : ColReach c (getN c.etree x) y → ColReach c x y

theorem colReach_trans (c : PanelCfg) {x y z : Nat} (h1 : ColReach c x y) (h2 : ColReach c y z) : ColReach c x z := by
  induction h1 with
  | refl => exact h2
  | step x y hx _ ih => exact ColReach.step x _ hx (ih h2)

structure EtreeUp (K : Cfg) : Prop where
  up : ∀ k, k < K.c.n → k < getN K.c.etree k

/-- inside a panel the path climbs to the panel's last column -/
theorem reach_last (K : Cfg) (Q : ColCfg) (C : ColWF K Q) (U : EtreeUp K) (p : Nat) (hp : p ∈ K.panels) :
    ∀ m k, p + Q.wd p - 1 - k ≤ m → p ≤ k → k < p + Q.wd p → ColReach K.c k (p + Q.wd p - 1) := by
  intro m
  induction m with
  | zero =>
    intro k h1 h2 h3
    have : k = p + Q.wd p - 1 := by omega
    rw [this]; exact ColReach.refl _
  | succ m ih =>
    intro k h1 h2 h3
    by_cases hl : k = p + Q.wd p - 1
    · rw [hl]; exact ColReach.refl _
    · have hkn : k < K.c.n := by have := C.cols_lt p hp; omega
      have hpk : Q.pan k = p := C.pan_cols p hp k h2 h3
      have hin := C.inner k hkn (by rw [hpk]; omega)
      rw [hpk] at hin
      have hup := U.up k hkn
      exact ColReach.step k _ hkn (ih (getN K.c.etree k) (by omega) hin.1 hin.2)

theorem desc_colReach (K : Cfg) (Q : ColCfg) (C : ColWF K Q) (U : EtreeUp K) {b q : Nat} (h : Desc K b q) :
    ColReach K.c b q := by
  induction h with
  | refl p => exact ColReach.refl p
  | step x p hx hd _ ih =>
    have h1 := reach_last K Q C U x hx (x + Q.wd x - 1 - x) x (le_refl _) (le_refl _) (by have := C.wd_pos x hx; omega)
    have h2 : ColReach K.c (x + Q.wd x - 1) (K.dad x) := by
      have := C.last x hx
      have hlt : x + Q.wd x - 1 < K.c.n := by
        have := C.cols_lt x hx
        have := C.wd_pos x hx
        omega
      exact ColReach.step _ _ hlt (by rw [this]; exact ColReach.refl _)
    exact colReach_trans K.c (colReach_trans K.c h1 h2) ih

theorem colReach_le (K : Cfg) (U : EtreeUp K) {a b : Nat} (h : ColReach K.c a b) : a ≤ b := by
  induction h with
  | refl => exact le_refl _
  | step a b ha _ ih => have := U.up a ha; omega

theorem mem_waitChain (K : Cfg) (U : EtreeUp K) (p : Nat) {k x : Nat} (h : ColReach K.c k x) :
    ∀ fuel, p - k ≤ fuel → 0 < fuel → x < p → x ∈ waitChain K.c p fuel k := by
  induction h with
  | refl x =>
    intro fuel _ hf hx
    obtain ⟨f, rfl⟩ : ∃ f, fuel = f + 1 := ⟨fuel - 1, by omega⟩
    unfold waitChain
    rw [if_pos hx]; exact List.mem_cons_self
  | step k x hk hr ih =>
    intro fuel h1 hf hx
    obtain ⟨f, rfl⟩ : ∃ f, fuel = f + 1 := ⟨fuel - 1, by omega⟩
    unfold waitChain
    have hle := colReach_le K U hr
    have hup := U.up k hk
    have hkp : k < p := by omega
    rw [if_pos hkp]
    apply List.mem_cons_of_mem
    exact ih f (by omega) (by omega) hx

/-- `T`: the `typ` array, which scheduling never writes; a relaxed supernode has no child panel -/
structure PipeStatic (K : Cfg) (T : Array Nat) : Prop extends EtreeUp K where
  leaf : ∀ p ∈ K.panels, getN T p = RELAXED_SNODE → ∀ q ∈ K.panels, K.dad q ≠ p

structure PipeInv (K : Cfg) (Q : ColCfg) (T : Array Nat) (s : Sys) : Prop where
  typ_eq : s.sh.typ = T
  spin_full : ∀ p ∈ K.panels, stt s p = BUSY → ∀ k, p ≤ k → k < p + Q.wd p → getN s.sh.spin k ≠ 0
  done_closed : ∀ p ∈ K.panels, stt s p = DONE → ∀ q, Desc K q p → stt s q = DONE
  busy_path : ∀ i p b, (wk s i).phase = .working p b → Covered K s b p
  /-- a runnable panel waiting in the queue: `fb_cols` in the role of `bcol` -/
  pipe_path : ∀ p ∈ K.panels, stt s p > BUSY → stt s p ≠ UNREADY → Covered K s (getN s.sh.fb p) p

theorem finish_needs_descendants_done (K : Cfg) (W : CfgWF K) (Q : ColCfg) (C : ColWF K Q) (T : Array Nat) (PS : PipeStatic K T)
    (s : Sys) (inv : SysInv K s) (pv : PipeInv K Q T s) (w p b : Nat) (hph : (wk s w).phase = .working p b)
    (hrel : chainReleased K.c s.sh p b = true) : ∀ q, Desc K q p → q ≠ p → stt s q = DONE := by
  intro q hq hne
  by_contra hnd
  obtain ⟨_, hbusy, hpp⟩ := inv.own_w w p b hph
  obtain ⟨_, hqp, _⟩ := desc_dad K hq hne
  have hqt := (below_taken K s inv hq hpp (by rw [hbusy])).2
  have hqb : stt s q = BUSY := by have := state_order; omega
  have hbq := pv.busy_path w p b hph q hq hne hnd
  unfold chainReleased at hrel
  split at hrel
  · next htyp =>
    -- a relaxed supernode has no child panel
    obtain ⟨c, c1, c2, _, _⟩ := desc_child K hq hne
    have : getN T p = RELAXED_SNODE := by rw [← pv.typ_eq]; simpa using htyp
    exact PS.leaf p hpp this c c1 c2
  · rw [List.all_eq_true] at hrel
    have hlt : q < p := by have := desc_le K W hq; omega
    have hpn := W.lt p hpp
    have hreach := desc_colReach K Q C PS.toEtreeUp hbq
    have hmem := mem_waitChain K PS.toEtreeUp p hreach (K.c.n + 1) (by omega) (by omega) hlt
    have h0 := hrel q hmem
    simp only [beq_iff_eq] at h0
    exact pv.spin_full q hqp hqb q (le_refl _) (by have := C.wd_pos q hqp; omega) h0

theorem pipeInv_loop (K : Cfg) (Q : ColCfg) (T : Array Nat) (s : Sys) (pv : PipeInv K Q T s) (w : Nat)
    (h : enabled K.c s (.loop w) = true) : PipeInv K Q T (step K.c s (.loop w)) := by
  obtain ⟨ws', e, E⟩ := loop_effect K.c s w h
  rw [e]
  exact { pv with busy_path := fun i p b hp => pv.busy_path i p b ((E.working_iff i p b).1 hp) }

theorem pipeInv_finish (K : Cfg) (W : CfgWF K) (Q : ColCfg) (C : ColWF K Q) (T : Array Nat) (PS : PipeStatic K T)
    (s : Sys) (inv : SysInv K s) (pinv : ProgInv K Q s) (pv : PipeInv K Q T s) (w : Nat)
    (h : enabled K.c s (.finish w) = true) : PipeInv K Q T (step K.c s (.finish w)) := by
  obtain ⟨p, b, ws', e, E⟩ := finish_effect K.c s w h
  rw [e]
  obtain ⟨_, _, hpp, hst, _⟩ := finish_facts W inv E
  have hord := state_order
  have hA := finish_needs_descendants_done K W Q C T PS s inv pv w p b E.working E.released
  have hnd : ∀ q, stt ⟨finishPanel s.sh p, ws'⟩ q ≠ DONE → stt s q ≠ DONE := by
    intro q h
    rw [hst] at h
    split at h
    · exact absurd rfl h
    · exact h
  refine { pv with
    spin_full := ?spin_full, done_closed := ?done_closed, busy_path := ?busy_path, pipe_path := ?pipe_path }
  case spin_full =>
    intro p' hp' hb k k1 k2
    rw [hst] at hb
    split at hb
    · omega
    · next e =>
      show getN (fillN s.sh.spin p (getZ s.sh.size p).toNat 0) k ≠ 0
      rw [pinv.size_eq p hpp, getN_fillN _ _ _ _ _ (by rw [pinv.spin_sz]; exact C.cols_lt p hpp),
        if_neg (fun hk => e ((C.pan_cols p' hp' k k1 k2).symm.trans (C.pan_cols p hpp k hk.1 hk.2)))]
      exact pv.spin_full p' hp' hb k k1 k2
  case done_closed =>
    intro p' hp' hd q hq
    rw [hst] at hd ⊢
    split
    · rfl
    · next eq =>
      split at hd
      · next e => exact hA q (e ▸ hq) eq
      · exact pv.done_closed p' hp' hd q hq
  case busy_path =>
    exact fun i p' b' hp => (pv.busy_path i p' b' ((E.working_iff i p' b').1 hp).2).mono hnd
  case pipe_path =>
    intro p' hp' h1 h2
    rw [hst] at h1 h2
    split at h1
    · omega
    · next e => rw [if_neg e] at h2; exact (pv.pipe_path p' hp' h1 h2).mono hnd

/-- Why `Covered` survives a hand-out (`hB`): `bcol` is where `climbDone` stops from `fb_cols[j]`.  If `j` was
runnable its unfinished descendants were on the path from `fb_cols[j]` and the climb passed finished panels only; if it was UNREADY
its last child has just been reported and nothing below is unfinished.  A parent made CANPIPE gets `fb_cols := bcol` and
has `j` as only unreported child.  The second conjunct is the C03 hand-out theorem (`global_handout_chain`). -/
theorem pipeInv_sched (K : Cfg) (W : CfgWF K) (Q : ColCfg) (C : ColWF K Q) (T : Array Nat)
    (s : Sys) (inv : SysInv K s) (pinv : ProgInv K Q s) (pv : PipeInv K Q T s) (w : Nat)
    (h : enabled K.c s (.sched w) = true) :
    PipeInv K Q T (step K.c s (.sched w)) ∧
    (∀ j, (schedule K.c s.sh (wk s w).cur 0).2.1 = some j → ∀ q, Desc K q j → q ≠ j → stt (step K.c s (.sched w)) q ≠ DONE →
        stt (step K.c s (.sched w)) q = BUSY ∧ Desc K (schedule K.c s.sh (wk s w).cur 0).2.2 q) := by
  have inv' := sysInv_sched K W s inv w h
  obtain ⟨got, b, E⟩ := sched_effect K W s inv w h
  rw [E.got_eq, E.b_eq]
  generalize step K.c s (.sched w) = s' at E inv' ⊢
  have hord := state_order
  have hdone : ∀ q, stt s' q ≠ DONE → stt s q ≠ DONE := fun q => (not_congr (E.done_iff q)).1
  have hkid_done : ∀ c ∈ K.panels, ¬ unrep s' c → ∀ q, Desc K q c → stt s' q = DONE := by
    intro c hc hnu q hq
    have hcd : stt s' c = DONE := by by_contra hx; exact hnu (Or.inl hx)
    exact (E.done_iff q).2 (pv.done_closed c hc ((E.done_iff c).1 hcd) q hq)
  have hB : ∀ j, got = some j → Desc K b j ∧ Covered K s' b j := by
    intro j hj
    have hjp := E.got_pan j hj
    obtain ⟨f1, f2⟩ := pinv.fb_desc j hjp
    have hjb : stt s' j ≠ DONE := by have := (E.took hj).2; omega
    obtain ⟨⟨_, hcd⟩, hcl⟩ := climb_path K W s' inv'.dad_eq j hjb (K.c.n + 1) _ f1 f2
    rw [← (E.flags_some j hj).2.2] at hcl hcd
    refine ⟨hcd, fun q hq hne hnd => ?_⟩
    by_cases hun : stt s j = UNREADY
    · -- handed out because its last child was reported: nothing below is unfinished
      obtain ⟨c, c1, c2, _, c4⟩ := desc_child K hq hne
      exact absurd (hkid_done c c1 (kids_zero (inv'.kids j (Or.inl hjp)) (E.unready_got inv hj hun) c1 c2) q c4) hnd
    · have o1 := pv.pipe_path j hjp (E.took hj).1 hun q hq hne (hdone q hnd)
      rcases desc_linear K o1 hcl.1 with hqb | hbq
      · by_cases e : q = b
        · rw [e]; exact Desc.refl b
        · exact absurd (hcl.2 q o1 hqb e) hnd
      · exact hbq
  refine ⟨{
      typ_eq := E.typ_eq.trans pv.typ_eq, spin_full := ?spin_full, done_closed := ?done_closed, busy_path := ?busy_path,
      pipe_path := ?pipe_path },
    fun j hj q hq hne hnd => ⟨?busy, (hB j hj).2 q hq hne hnd⟩⟩
  case spin_full =>
    intro p hp hb k k1 k2
    have hold : got ≠ some p → getN s.sh.spin k ≠ 0 := fun hg =>
      pv.spin_full p hp ((E.busy hb).resolve_left hg) k k1 k2
    cases hg : got with
    | none => rw [(E.flags_none hg).1]; exact hold (by rw [hg]; simp)
    | some j =>
      have hjp := E.got_pan j hg
      rw [(E.flags_some j hg).1, pinv.size_eq j hjp, getN_fillN _ _ _ _ _ (by rw [pinv.spin_sz]; exact C.cols_lt j hjp)]
      split
      · simp
      · next hin => exact hold (by rw [hg]; rintro ⟨⟩; exact hin ⟨k1, k2⟩)
  case done_closed =>
    exact fun p hp hd q hq => (E.done_iff q).2 (pv.done_closed p hp ((E.done_iff p).1 hd) q hq)
  case busy_path =>
    intro i p b' hp
    rcases (E.working_iff i p b').1 hp with ⟨_, hg, rfl⟩ | ⟨_, hp0⟩
    · exact (hB p hg).2
    · exact (pv.busy_path i p b' hp0).mono hdone
  case pipe_path =>
    intro p hp h1 h2
    rcases E.state p with ⟨_, _, hb⟩ | ⟨_, _, _, j, hg, hpj, hu1⟩ | ⟨hpg, e⟩
    · omega
    · -- `p` has just been made runnable by the hand-out of its only unreported child `j`
      have hjp := E.got_pan j hg
      have hju : unrep s' j := Or.inl (by have := (E.took hg).2; omega)
      subst hpj
      rw [(E.flags_some j hg).2.1, getN_set _ _ _ _ (by rw [pinv.fb_sz]; have := W.lt _ hp; omega), if_pos rfl]
      intro q hq hne hnd
      obtain ⟨c, c1, c2, _, c4⟩ := desc_child K hq hne
      by_cases ecj : c = j
      · subst ecj
        by_cases eqj : q = c
        · subst eqj; exact (hB q hg).1
        · exact (hB c hg).2 q c4 eqj hnd
      · have hnu : ¬ unrep s' c := fun hu' => ecj (kids_one (inv'.kids _ (Or.inl hp)) hu1 hjp rfl hju c1 c2 hu')
        exact absurd (hkid_done c c1 hnu q c4) hnd
    · rw [e] at h1 h2
      have efb : getN s'.sh.fb p = getN s.sh.fb p := by
        cases hg : got with
        | none => rw [(E.flags_none hg).2]
        | some j =>
          rw [(E.flags_some j hg).2.1, getN_set_ne]
          rintro rfl
          -- the parent of the panel handed out, if unchanged, is still UNREADY
          exact h2 (E.dad_unready j hg (W.lt _ hp))
      rw [efb]; exact (pv.pipe_path p hp h1 h2).mono hdone
  case busy =>
    have := (below_taken K s' inv' hq (E.got_pan j hj) (by rw [(E.took hj).2])).2
    omega

end Slu
