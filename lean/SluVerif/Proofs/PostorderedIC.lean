/- forests already postordered, in the interval-closed form `PostorderedIC`: decided by `checkPostordered`, implied
   by `Postordered`; their recursive postorder is sorted (`po_sorted`, the reason TreePostorder leaves them alone). -/
import SluVerif.Proofs.Relabel
namespace Slu.Pre

theorem descB_sound (par : Array Nat) (n v : Nat) : ∀ f u, descB par n v f u = true → Desc (getN par) n v u
  | 0, u, h => by
      simp only [descB, decide_eq_true_eq] at h
      subst h
      exact Desc.refl _
  | f + 1, u, h => by
      unfold descB at h
      split at h
      next he =>
        subst he
        exact Desc.refl _
      next =>
        split at h
        next => cases h
        next hu => exact Desc.step (by omega) (descB_sound par n v f _ h)

theorem descB_complete (par : Array Nat) (n v : Nat) (hinc : ∀ x, x < n → x < getN par x) :
    ∀ f u, v - u ≤ f → Desc (getN par) n v u → descB par n v f u = true
  | 0, u, hf, h => by
      have := h.le_of_increasing hinc
      simp only [descB, decide_eq_true_eq]
      omega
  | f + 1, u, hf, h => by
      unfold descB
      cases h with
      | refl => simp
      | step hx h' =>
          have h1 := hinc _ hx
          have h2 := h'.le_of_increasing hinc
          have hne : u ≠ v := by omega
          have hnu : ¬ n ≤ u := by omega
          simp only [hne, if_false, hnu]
          exact descB_complete par n v hinc f _ (by omega) h'

/-- interval-closed form: parents are larger, and a subtree contains everything between a member and its root -/
def PostorderedIC (n : Nat) (par : Array Nat) : Prop :=
  par.size = n ∧ (∀ v, v < n → v < getN par v ∧ getN par v ≤ n) ∧
  ∀ v u w, v < n → u ≤ w → w ≤ v → Desc (getN par) n v u → Desc (getN par) n v w

/-- what the check computes, literally: every subtree is closed under `u ↦ u + 1` below its root -/
theorem checkPostordered_eq {n : Nat} {par : Array Nat} : checkPostordered n par = true ↔
    par.size = n ∧ (∀ v, v < n → v < getN par v ∧ getN par v ≤ n) ∧
    ∀ v, v < n → ∀ u, u < v → Desc (getN par) n v u → Desc (getN par) n v (u + 1) := by
  unfold checkPostordered
  simp only [Bool.and_eq_true, beq_iff_eq, List.all_eq_true, List.mem_range, decide_eq_true_eq,
    Bool.or_eq_true, Bool.not_eq_true', and_assoc]
  refine and_congr_right fun _ => and_congr_right fun h2 => ?_
  have hinc : ∀ x, x < n → x < getN par x := fun x hx => (h2 x hx).1
  have hB : ∀ {v u}, v < n → (descB par n v n u = true ↔ Desc (getN par) n v u) := fun hv =>
    ⟨descB_sound par n _ n _, descB_complete par n _ hinc n _ (by omega)⟩
  -- `descB` with fuel `n` is `Desc`, and `!b || c` is `b → c`
  refine forall_congr' fun v => forall_congr' fun hv => forall_congr' fun u => forall_congr' fun _ => ?_
  rw [← hB hv, ← hB hv, ← Bool.not_eq_true, ← Decidable.imp_iff_not_or]

theorem checkPostordered_sound {n : Nat} {par : Array Nat} (h : checkPostordered n par = true) :
    PostorderedIC n par := by
  obtain ⟨h1, h2, h3⟩ := checkPostordered_eq.1 h
  refine ⟨h1, h2, fun v u w hv huw hwv hd => ?_⟩
  have : ∀ d w, w = u + d → w ≤ v → Desc (getN par) n v w := by
    intro d
    induction d with
    | zero =>
        intro w hw _
        rw [hw]
        exact hd
    | succ d ih =>
        intro w hw hwv
        rw [hw]
        exact h3 v hv (u + d) (by omega) (ih (u + d) rfl (by omega))
  exact this (w - u) w (by omega) hwv

theorem checkPostordered_complete {n : Nat} {par : Array Nat} (h : PostorderedIC n par) :
    checkPostordered n par = true :=
  checkPostordered_eq.2 ⟨h.1, h.2.1, fun v hv u hu hd => h.2.2 v u (u + 1) hv (Nat.le_succ u) hu hd⟩

theorem Postordered.toIC {n : Nat} {par : Array Nat} (h : Postordered n par) : PostorderedIC n par := by
  obtain ⟨h1, h2, h3⟩ := h
  refine ⟨h1, h2, ?_⟩
  intro v u w hv huw hwv hd
  obtain ⟨s, _, _, hs⟩ := h3 v hv
  have := (hs u (by omega)).1 hd
  exact (hs w (by omega)).2 ⟨by omega, hwv⟩

theorem po_sorted {n : Nat} {parent : Array Nat} (h : PostorderedIC n parent) (f v : Nat) :
    (po (kids (getN parent) n) f v).Pairwise (· < ·) := by
  obtain ⟨_, hinc, hic⟩ := h
  have hlt : ∀ x, x < n → x < getN parent x := fun x hx => (hinc x hx).1
  refine po_pairwise (fun {v k1 k2 x y} hk1 hk2 h12 dx dy => ?_) (fun {v k x} hk dx => ?_) f v
  · have hxk := dx.le_of_increasing hlt
    refine Nat.lt_of_not_le fun hyx => ?_
    -- `y ≤ x ≤ k1 < k2` with `y` below `k2`: the interval would put `k1` below its sibling `k2`
    exact not_desc_sibling (rank := fun x => x) ⟨fun v hv => (hinc v hv).2, hlt⟩ hk2 hk1 (by omega)
      (hic k2 y k1 ((mem_kids _).1 hk2).1 (by omega) (by omega) dy)
  · obtain ⟨hkn, hp⟩ := (mem_kids _).1 hk
    have := dx.le_of_increasing hlt
    have := hlt k hkn
    omega

end Slu.Pre
