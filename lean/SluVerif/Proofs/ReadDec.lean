/- Printed decimals under `strtod`, as `atof` (fixed fields, after `D`→`E`) and `scanf("%lf")` (free format) use
it. -/
import SluVerif.Proofs.ReadBasic
namespace Slu.Read

/-- `D`/`d` too: `?ReadValues` turns them into `E` before `atof`. -/
def isExpLetter4 (c : Char) : Bool := c == 'E' || c == 'e' || c == 'D' || c == 'd'

/-- an exponent letter without digits is not part of the number for `strtod`, and fails `scanf`. -/
def ExpPart.WF (e : ExpPart) : Prop := isExpLetter4 e.letter = true ∧ AllDig e.ds ∧ e.ds ≠ []

/-- `strtod` converts nothing when there is no digit on either side of the point. -/
def Dec.WF (d : Dec) : Prop :=
  AllDig d.ip ∧ AllDig d.fp ∧ d.ip ++ d.fp ≠ [] ∧ (∀ e, d.ex = some e → e.WF)

theorem Dec.WF.ip {d : Dec} (h : d.WF) : AllDig d.ip := h.1
theorem Dec.WF.fp {d : Dec} (h : d.WF) : AllDig d.fp := h.2.1
theorem Dec.WF.ne {d : Dec} (h : d.WF) : d.ip ++ d.fp ≠ [] := h.2.2.1
theorem Dec.WF.ex {d : Dec} (h : d.WF) : ∀ e, d.ex = some e → e.WF := h.2.2.2

/-- exponent letters of `scanf("%lf")`: `E`/`e` only. -/
def Dec.WFE (d : Dec) : Prop := d.WF ∧ ∀ e, d.ex = some e → isExpLetter e.letter = true

theorem dToE_dig {c : Char} (h : isDig c = true) : dToE c = c := isDig_elim (fun c => dToE c = c) (by decide) h

theorem map_dToE_allDig {s : Str} (h : AllDig s) : s.map dToE = s :=
  (List.map_congr_left fun c hc => dToE_dig (h c hc)).trans (List.map_id' s)

theorem map_dToE_blanks (k : Nat) : (blanks k).map dToE = blanks k := by
  simp [blanks, dToE]

theorem map_dToE_sign (n p : Bool) : (signStr n p).map dToE = signStr n p := by
  cases n <;> cases p <;> rfl

theorem dToE_letter {c : Char} (h : isExpLetter4 c = true) : isExpLetter (dToE c) = true := by
  simp only [isExpLetter4, Bool.or_eq_true, beq_iff_eq] at h
  rcases h with ((rfl | rfl) | rfl) | rfl <;> rfl

theorem dToE_expLetter {c : Char} (h : isExpLetter c = true) : dToE c = c := by
  simp only [isExpLetter, Bool.or_eq_true, beq_iff_eq] at h
  rcases h with rfl | rfl <;> rfl

theorem isDig_not_expLetter {c : Char} (h : isDig c = true) : isExpLetter c = false :=
  isDig_elim (isExpLetter · = false) (by decide) h

theorem isSpace_not_expLetter {c : Char} (h : isSpace c = true) : isExpLetter c = false := by
  simp only [isSpace, Bool.or_eq_true, beq_iff_eq] at h
  rcases h with ((((rfl | rfl) | rfl) | rfl) | rfl) | rfl <;> rfl

theorem isSpace_not_dot {c : Char} (h : isSpace c = true) : c ≠ '.' := by
  simp only [isSpace, Bool.or_eq_true, beq_iff_eq] at h
  rcases h with ((((rfl | rfl) | rfl) | rfl) | rfl) | rfl <;> decide

/-- `tl` may follow the fraction digits: an exponent part of value `v` ending at `rest`, or none (`v = 0`, `tl = rest`);
`NoDigHead tl` stops `spanDigits`. -/
def ExpTail (tl : Str) (v : Int) (rest : Str) : Prop := NoDigHead tl ∧ parseExp tl = (v, rest, false)

theorem expTail_exp {c : Char} (hc : isExpLetter c = true) (n p : Bool) {ds rest : Str}
    (hd : AllDig ds) (hne : ds ≠ []) (hr : NoDigHead rest) :
    ExpTail (c :: (signStr n p ++ (ds ++ rest))) (applySign n (valOf ds)) rest := by
  obtain ⟨x, xs, rfl⟩ := List.exists_cons_of_ne_nil hne
  refine ⟨not_isDig_of isDig_not_expLetter hc, ?_⟩
  rw [parseExp, if_pos hc, List.cons_append, takeSign_signStr n p (isDig_not_sign hd.head)]
  simp only
  rw [← List.cons_append, spanDigits_append hd hr]
  rfl

theorem expTail_stop {rest : Str} (hr : WsHead rest) : ExpTail rest 0 rest := by
  refine ⟨hr.noDig, ?_⟩
  cases rest with
  | nil => rfl
  | cons c cs => rw [parseExp, if_neg (by rw [isSpace_not_expLetter hr]; decide)]

theorem startsSpecial_dig {c : Char} {s : Str} (h : isDig c = true) : startsSpecial (c :: s) = false :=
  isDig_elim (fun c => (c == 'i' || c == 'I' || c == 'n' || c == 'N') = false) (by decide +kernel) h

theorem startsHex_second {c c2 : Char} {s : Str} (h : (c2 == 'x' || c2 == 'X') = false) :
    startsHex (c :: c2 :: s) = false := by
  unfold startsHex
  split
  next heq =>
    injection heq with a b
    injection b with b1 b2
    subst b1
    exact h
  next => rfl

theorem startsHex_single {c : Char} : startsHex [c] = false := by
  unfold startsHex
  split
  next heq =>
    injection heq with a b
    cases b
  next => rfl

theorem parseFloat_text {ws ip fp tl rest : Str} {v : Int} (n p : Bool) (hws : WsAll ws)
    (hip : AllDig ip) (hfp : AllDig fp) (hne : ip ++ fp ≠ []) (ht : ExpTail tl v rest) :
    parseFloat (ws ++ (signStr n p ++ (ip ++ '.' :: (fp ++ tl)))) =
      FRes.val n (valOf (ip ++ fp)) (v - (fp.length : Int)) rest false := by
  -- the first two characters decide that this is neither inf/nan nor a hexadecimal form
  obtain ⟨c, s, hbody, hc, hsp⟩ : ∃ c s, ip ++ '.' :: (fp ++ tl) = c :: s ∧ (isDig c = true ∨ c = '.') ∧
      (startsSpecial (c :: s) || startsHex (c :: s)) = false := by
    cases ip with
    | nil => exact ⟨'.', _, rfl, Or.inr rfl, rfl⟩
    | cons c cs =>
      refine ⟨c, _, rfl, Or.inl hip.head, ?_⟩
      rw [startsSpecial_dig hip.head, Bool.false_or]
      cases cs with
      | nil => exact startsHex_second rfl
      | cons c2 cs2 =>
        exact startsHex_second (isDig_elim (fun c => (c == 'x' || c == 'X') = false) (by decide) hip.tail.head)
  have hemp : (ip.isEmpty && fp.isEmpty) = false := by
    cases ip with
    | nil =>
      cases fp with
      | nil => exact absurd rfl hne
      | cons _ _ => rfl
    | cons _ _ => rfl
  have h1 : spanDigits (ip ++ '.' :: (fp ++ tl)) = (ip, '.' :: (fp ++ tl)) :=
    spanDigits_append hip (noDigHead_cons (by decide))
  unfold parseFloat
  rw [hbody, takeSign_skipSpace hws n p hc]
  simp only
  unfold parseUnsigned
  rw [hsp, ← hbody]
  simp only [Bool.false_eq_true, if_false, h1, spanDigits_append hfp ht.1, hemp, ht.2]

/-- the exponent part of `Dec.text` and of `Dec.value`, named so that the cases of `d.ex` are split once. -/
def Dec.exText (d : Dec) : Str := match d.ex with | some e => e.text | none => []
def Dec.exVal (d : Dec) : Int := match d.ex with | some e => applySign e.neg (valOf e.ds) | none => 0

theorem Dec.text_eq (d : Dec) : d.text = signStr d.neg d.plus ++ (d.ip ++ '.' :: (d.fp ++ d.exText)) := by
  unfold Dec.text Dec.exText
  cases d.ex <;> simp

theorem Dec.value_eq (d : Dec) :
    d.value = (applySign d.neg (valOf (d.ip ++ d.fp)), d.exVal - (d.fp.length : Int)) := rfl

theorem Dec.expTail_dToE (d : Dec) (h : d.WF) : ExpTail (d.exText.map dToE) d.exVal [] := by
  unfold Dec.exText Dec.exVal
  cases hex : d.ex with
  | none => exact expTail_stop trivial
  | some e =>
    obtain ⟨hl, hd, hne⟩ := h.ex e hex
    have := expTail_exp (dToE_letter hl) e.neg e.plus hd hne (rest := []) trivial
    simpa [ExpPart.text, map_dToE_sign, map_dToE_allDig hd] using this

theorem Dec.expTail (d : Dec) (h : d.WFE) {rest : Str} (hr : WsHead rest) :
    ExpTail (d.exText ++ rest) d.exVal rest := by
  unfold Dec.exText Dec.exVal
  cases hex : d.ex with
  | none => exact expTail_stop hr
  | some e =>
    obtain ⟨_, hd, hne⟩ := h.1.ex e hex
    have := expTail_exp (h.2 e hex) e.neg e.plus hd hne hr.noDig
    simpa [ExpPart.text] using this

theorem convValue_text (w : Nat) (d : Dec) (h : d.WF) : convValue (padLeft w d.text) = some d.value := by
  have hmap : (padLeft w d.text).map dToE =
      blanks (w - d.text.length) ++ (signStr d.neg d.plus ++ (d.ip ++ '.' :: (d.fp ++ d.exText.map dToE))) := by
    rw [padLeft, List.map_append, map_dToE_blanks, d.text_eq]
    simp only [List.map_append, List.map_cons, map_dToE_sign, map_dToE_allDig h.ip, map_dToE_allDig h.fp]
    rfl
  rw [convValue, atofC, hmap,
    parseFloat_text d.neg d.plus (wsAll_blanks _) h.ip h.fp h.ne (d.expTail_dToE h), d.value_eq]

theorem scanFloat_text {ws : Str} (hws : WsAll ws) (d : Dec) (h : d.WFE) (rest : Str) (hr : WsHead rest) :
    scanFloat (ws ++ (d.text ++ rest)) = some (d.value, rest) := by
  have htext : d.text ++ rest = signStr d.neg d.plus ++ (d.ip ++ '.' :: (d.fp ++ (d.exText ++ rest))) := by
    rw [d.text_eq]
    simp only [List.append_assoc, List.cons_append]
  rw [scanFloat, htext,
    parseFloat_text d.neg d.plus hws h.1.ip h.1.fp h.1.ne (d.expTail h hr)]
  rfl

instance ExpPart.instDecidableWF (e : ExpPart) : Decidable e.WF := by unfold ExpPart.WF; infer_instance
instance Dec.instDecidableWF (d : Dec) : Decidable d.WF := by unfold Dec.WF; infer_instance
instance (d : Dec) : Decidable d.WFE := by unfold Dec.WFE; infer_instance

end Slu.Read
