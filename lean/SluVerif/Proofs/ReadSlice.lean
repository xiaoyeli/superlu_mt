/- Slicing a card into fields, `fgets` / `DumpLine` on a line, the card loop. -/
import SluVerif.Model.ReadWrite
namespace Slu.Read

/-- `hb`: the NUL stored behind the last field lies inside `buf[100]`. -/
theorem fieldsFrom_flatten (w : Nat) (fs : List Str) (off : Nat) (tail : Str)
    (hw : ∀ f ∈ fs, f.length = w) (hb : off + fs.length * w < 100) :
    fieldsFrom w fs.length off (fs.flatten ++ tail) = some fs := by
  induction fs generalizing off with
  | nil => rfl
  | cons f fs ih =>
    have hf : f.length = w := hw f (by simp)
    rw [List.length_cons, Nat.succ_mul] at hb
    simp only [List.length_cons, List.flatten_cons, List.append_assoc, fieldsFrom]
    rw [if_neg (by omega), if_neg (by rw [List.length_append, hf]; omega), List.take_left' hf, List.drop_left' hf,
      ih (off + w) (fun g hg => hw g (by simp [hg])) (by omega)]
    rfl

def NoNL (s : Str) : Prop := ∀ c ∈ s, (c == '\n') = false

instance (s : Str) : Decidable (NoNL s) := by unfold NoNL; infer_instance

theorem noNL_cons {c : Char} {s : Str} (hc : (c == '\n') = false) (hs : NoNL s) : NoNL (c :: s) :=
  List.forall_mem_cons.mpr ⟨hc, hs⟩

theorem noNL_append {a b : Str} (ha : NoNL a) (hb : NoNL b) : NoNL (a ++ b) :=
  List.forall_mem_append.mpr ⟨ha, hb⟩

theorem noNL_flatten {l : List Str} (h : ∀ f ∈ l, NoNL f) : NoNL l.flatten :=
  List.forall_mem_flatten.mpr h

theorem fgetsAux_line (k : Nat) (line rest : Str) (hl : NoNL line) (hk : line.length < k) :
    fgetsAux k (line ++ '\n' :: rest) = (line ++ ['\n'], rest) := by
  induction line generalizing k with
  | nil =>
    cases k with
    | zero => simp at hk
    | succ k => simp [fgetsAux]
  | cons c cs ih =>
    cases k with
    | zero => simp at hk
    | succ k =>
      have hc : (c == '\n') = false := hl c (by simp)
      have := ih k (fun x hx => hl x (by simp [hx])) (by simpa using hk)
      simp [fgetsAux, hc, this]

/-- `fgets(buf,100)` stores at most 99 characters: a line of up to 98 is read whole, with its newline. -/
theorem fgets_line (line rest : Str) (hl : NoNL line) (hk : line.length ≤ 98) :
    fgets (line ++ '\n' :: rest) = some (line ++ ['\n'], rest) := by
  rw [← fgetsAux_line 99 line rest hl (by omega)]
  -- `fgets` matches `[]` first
  cases line <;> rfl

theorem dumpLine_line {line rest : Str} (hl : NoNL line) : dumpLine (line ++ '\n' :: rest) = some rest := by
  induction line with
  | nil => simp [dumpLine]
  | cons c cs ih => simpa [dumpLine, hl c (by simp)] using ih fun x hx => hl x (by simp [hx])

theorem takeN_append {k : Nat} {a b : Str} (h : a.length = k) : takeN k (a ++ b) = some (a, b) := by
  subst h
  simp [takeN]

theorem mapM_map_of_conv {α β : Type} (conv : Str → Option α) (fmt : β → Str) (val : β → α) (l : List β)
    (h : ∀ x ∈ l, conv (fmt x) = some (val x)) : (l.map fmt).mapM conv = some (l.map val) := by
  induction l with
  | nil => rfl
  | cons x xs ih =>
    rw [List.map_cons, List.mapM_cons, h x (by simp), ih (fun y hy => h y (by simp [hy]))]
    rfl

theorem flatten_length_eq (w : Nat) {l : List Str} (h : ∀ f ∈ l, f.length = w) :
    l.flatten.length = l.length * w := by
  rw [List.length_flatten, List.map_congr_left h, List.map_const', List.sum_replicate_nat]

theorem readItemsAux_writeItems {α β : Type} (conv : Str → Option α) (fmt : β → Str) (val : β → α)
    (perline w : Nat) (trail : Str) (hp : 0 < perline) (hb : perline * w + trail.length ≤ 98) (htr : NoNL trail) :
    ∀ (fuel : Nat) (xs : List β) (rest : Str),
      xs.length ≤ fuel →
      (∀ x ∈ xs, (fmt x).length = w ∧ NoNL (fmt x) ∧ conv (fmt x) = some (val x)) →
      readItemsAux conv perline w fuel xs.length (writeItems perline trail fuel (xs.map fmt) ++ rest) =
        some (xs.map val, rest) := by
  -- reader and writer each spend one unit of fuel per card; `hb`: a card and its newline fit `fgets(buf,100)`
  intro fuel
  induction fuel with
  | zero =>
    intro xs rest hf _
    have : xs = [] := List.length_eq_zero_iff.mp (by omega)
    subst this
    rfl
  | succ fuel ih =>
    intro xs rest hf hx
    cases xs with
    | nil => rfl
    | cons x xs =>
      -- the first card holds `card = take perline` of the items, the later cards the others
      generalize hcard : (x :: xs).take perline = card
      generalize hmore : (x :: xs).drop perline = more
      have hcm : card ++ more = x :: xs := by
        rw [← hcard, ← hmore]
        exact List.take_append_drop _ _
      have hk : card.length = min perline (xs.length + 1) := by
        rw [← hcard, List.length_take, List.length_cons]
      have hlen : card.length + more.length = xs.length + 1 := by
        rw [← List.length_append, hcm, List.length_cons]
      rw [List.length_cons] at hf
      have hkw : card.length * w ≤ perline * w := by
        rw [hk]
        exact Nat.mul_le_mul_right _ (Nat.min_le_left _ _)
      have hk1 : 0 < card.length := hk ▸ Nat.lt_min.mpr ⟨hp, Nat.succ_pos _⟩
      have hkpos : min perline (xs.length + 1) ≠ 0 := hk ▸ Nat.ne_of_gt hk1
      have hneed : xs.length + 1 - min perline (xs.length + 1) = more.length := by
        rw [← hk, ← hlen, Nat.add_sub_cancel_left]
      have hml : more.length < xs.length + 1 := hlen ▸ Nat.lt_add_of_pos_left hk1
      have hsub : ∀ y ∈ card, y ∈ x :: xs := fun y hy => hcm ▸ List.mem_append_left _ hy
      have hsubd : ∀ y ∈ more, y ∈ x :: xs := fun y hy => hcm ▸ List.mem_append_right _ hy
      have hfl : ∀ f ∈ card.map fmt, f.length = w := fun f hf => by
        obtain ⟨y, hy, rfl⟩ := List.mem_map.mp hf
        exact (hx y (hsub y hy)).1
      have hflat : (card.map fmt).flatten.length = card.length * w := by
        rw [flatten_length_eq w hfl, List.length_map]
      have hfg := fgets_line ((card.map fmt).flatten ++ trail) (writeItems perline trail fuel (more.map fmt) ++ rest)
        (noNL_append (noNL_flatten fun f hf => by
          obtain ⟨y, hy, rfl⟩ := List.mem_map.mp hf
          exact (hx y (hsub y hy)).2.1) htr)
        (by rw [List.length_append]; omega)
      have hfields := fieldsFrom_flatten w (card.map fmt) 0 (trail ++ ['\n']) hfl
        (by rw [List.length_map]; omega)
      have hrec := ih more rest (Nat.le_of_lt_succ (Nat.lt_of_lt_of_le hml hf)) (fun y hy => hx y (hsubd y hy))
      have hmap := mapM_map_of_conv conv fmt val card (fun y hy => (hx y (hsub y hy)).2.2)
      rw [List.length_map, hk] at hfields
      rw [List.map_cons, writeItems, ← List.map_cons, ← List.map_take, ← List.map_drop, hcard, hmore]
      simp only [List.append_assoc] at hfg
      -- `hfg`: `fgets`; `hkpos`: `k = 0`; `hfields`: the slicing; `hmap`: `mapM`; `hneed`, `hrec`: the later cards
      simp only [List.length_cons, readItemsAux, List.append_assoc, List.cons_append, hfg, if_neg hkpos, hfields, hmap,
        hneed, hrec]
      rw [← List.map_append, hcm]

end Slu.Read
