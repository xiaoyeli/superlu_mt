/- `rsum` / `asum` as Finset sums, idamax, ‖M x‖₁ ≤ ‖M‖₁ ‖x‖₁, the 1-norms of the three probe vectors of ?lacon -/
import SluVerif.Model.Lacon
import Mathlib.Algebra.Order.BigOperators.Group.Finset
import Mathlib.Algebra.Order.Field.Rat
import Mathlib.Algebra.BigOperators.Ring.Finset
import Mathlib.Algebra.BigOperators.Field
import Mathlib.Tactic.Linarith
import Mathlib.Tactic.Ring
import Mathlib.Tactic.FieldSimp
import Mathlib.Tactic.Positivity

namespace Slu
open Finset

theorem rabs_eq_abs (x : Rat) : rabs x = |x| := by
  unfold rabs
  split
  · rename_i h
    exact (abs_of_neg h).symm
  · rename_i h
    exact (abs_of_nonneg (not_lt.mp h)).symm

theorem rabs_nonneg (x : Rat) : 0 ≤ rabs x := by
  rw [rabs_eq_abs]
  exact abs_nonneg x

theorem rsum_eq (n : Nat) (f : Nat → Rat) : rsum n f = ∑ i ∈ range n, f i := rfl

theorem rget_rmk (n : Nat) (f : Nat → Rat) (i : Nat) : rget (rmk n f) i = if i < n then f i else 0 := by
  unfold rget rmk
  by_cases h : i < n <;> simp [Array.getD, h]

theorem rget_rmk_lt {n : Nat} {f : Nat → Rat} {i : Nat} (h : i < n) : rget (rmk n f) i = f i := by
  rw [rget_rmk, if_pos h]

theorem asum_eq (n : Nat) (x : RVec) : asum n x = ∑ i ∈ range n, |rget x i| := by
  unfold asum
  rw [rsum_eq]
  exact Finset.sum_congr rfl fun i _ => rabs_eq_abs _

theorem asum_nonneg (n : Nat) (x : RVec) : 0 ≤ asum n x := by
  rw [asum_eq]
  exact Finset.sum_nonneg fun i _ => abs_nonneg _

theorem asum_rmk (n : Nat) (f : Nat → Rat) : asum n (rmk n f) = ∑ i ∈ range n, |f i| := by
  rw [asum_eq]
  exact Finset.sum_congr rfl fun i hi => by rw [rget_rmk_lt (mem_range.mp hi)]

theorem asum_vcopy (n : Nat) (x : RVec) : asum n (vcopy n x) = asum n x := by
  unfold vcopy
  rw [asum_rmk, asum_eq]

theorem colAbsSum_eq (n : Nat) (M : Nat → Nat → Rat) (j : Nat) : colAbsSum n M j = ∑ i ∈ range n, |M i j| := by
  unfold colAbsSum
  rw [rsum_eq]
  exact Finset.sum_congr rfl fun i _ => rabs_eq_abs _

theorem colAbsSum_nonneg (n : Nat) (M : Nat → Nat → Rat) (j : Nat) : 0 ≤ colAbsSum n M j := by
  rw [colAbsSum_eq]
  exact Finset.sum_nonneg fun i _ => abs_nonneg _

private def amaxStep (x : RVec) (best i : Nat) : Nat := if rabs (rget x best) < rabs (rget x i) then i else best

theorem idamax_succ (n : Nat) (x : RVec) :
    idamax (n + 1) x = if rabs (rget x (idamax n x)) < rabs (rget x n) then n else idamax n x := by
  unfold idamax
  rw [List.range_succ, List.foldl_append]
  rfl

theorem idamax_lt {n : Nat} (hn : 0 < n) (x : RVec) : idamax n x < n := by
  induction n with
  | zero => omega
  | succ k ih =>
    rw [idamax_succ]
    split
    · omega
    · rcases Nat.eq_zero_or_pos k with h | h
      · subst h
        simp [idamax]
      · omega

theorem idamax_max (n : Nat) (x : RVec) : ∀ i, i < n → |rget x i| ≤ |rget x (idamax n x)| := by
  induction n with
  | zero =>
    omega
  | succ k ih =>
    intro i hi
    -- the new index dominates the old one and the element just compared
    have key : |rget x (idamax k x)| ≤ |rget x (idamax (k + 1) x)| ∧ |rget x k| ≤ |rget x (idamax (k + 1) x)| := by
      rw [idamax_succ, rabs_eq_abs, rabs_eq_abs]
      split
      · exact ⟨le_of_lt ‹_›, le_refl _⟩
      · exact ⟨le_refl _, not_lt.mp ‹_›⟩
    rcases Nat.lt_succ_iff_lt_or_eq.mp hi with h1 | rfl
    · exact (ih i h1).trans key.1
    · exact key.2

theorem asum_matVec_le (n : Nat) (M : Nat → Nat → Rat) (x : RVec) (c : Rat)
    (hc : ∀ j, j < n → colAbsSum n M j ≤ c) : asum n (matVec n M x) ≤ c * asum n x := by
  unfold matVec
  rw [asum_rmk, asum_eq]
  calc ∑ i ∈ range n, |rsum n fun j => M i j * rget x j|
      ≤ ∑ i ∈ range n, ∑ j ∈ range n, |M i j| * |rget x j| := by
        apply Finset.sum_le_sum
        intro i _
        rw [rsum_eq]
        calc |∑ j ∈ range n, M i j * rget x j| ≤ ∑ j ∈ range n, |M i j * rget x j| := Finset.abs_sum_le_sum_abs _ _
          _ = ∑ j ∈ range n, |M i j| * |rget x j| := Finset.sum_congr rfl fun j _ => abs_mul _ _
    _ = ∑ j ∈ range n, (∑ i ∈ range n, |M i j|) * |rget x j| := by
        rw [Finset.sum_comm]
        exact Finset.sum_congr rfl fun j _ => by rw [Finset.sum_mul]
    _ ≤ ∑ j ∈ range n, c * |rget x j| := by
        apply Finset.sum_le_sum
        intro j hj
        have := hc j (mem_range.mp hj)
        rw [colAbsSum_eq] at this
        exact mul_le_mul_of_nonneg_right this (abs_nonneg _)
    _ = c * ∑ j ∈ range n, |rget x j| := by rw [Finset.mul_sum]

theorem asum_one (x : RVec) : asum 1 x = rabs (rget x 0) := by
  unfold asum rsum
  simp

theorem asum_const (n : Nat) (hn : 0 < n) : asum n (rmk n fun _ => 1 / (n : Rat)) = 1 := by
  rw [asum_rmk]
  simp only [Finset.sum_const, card_range, nsmul_eq_mul]
  rw [abs_of_pos (by positivity)]
  field_simp

theorem asum_unitVec_le (n j : Nat) : asum n (unitVec n j) ≤ 1 := by
  unfold unitVec
  rw [asum_rmk]
  have : ∀ i ∈ range n, |(if i = j then (1 : Rat) else 0)| = if i = j then 1 else 0 := by
    intro i _
    split <;> simp
  rw [Finset.sum_congr rfl this, Finset.sum_ite_eq']
  split <;> norm_num

theorem sum_range_cast (n : Nat) : ∑ k ∈ range n, (k : Rat) = (n : Rat) * ((n : Rat) - 1) / 2 := by
  induction n with
  | zero => simp
  | succ k ih =>
    rw [Finset.sum_range_succ, ih]
    push_cast
    ring

theorem asum_altVec (n : Nat) (hn : 2 ≤ n) : asum n (altVec n) = 3 * (n : Rat) / 2 := by
  unfold altVec
  rw [asum_rmk]
  have hn1 : (0 : Rat) < (n : Rat) - 1 := by
    have : (2 : Rat) ≤ n := by exact_mod_cast hn
    linarith
  have hc : ((((n : Int) - 1 : Int)) : Rat) = (n : Rat) - 1 := by
    push_cast
    ring
  have : ∀ k ∈ range n, |(if k % 2 = 0 then (1 : Rat) else -1) * ((k : Rat) / (((n : Int) - 1 : Int) : Rat) + 1)|
      = (k : Rat) / ((n : Rat) - 1) + 1 := by
    intro k _
    rw [hc, abs_mul]
    have h1 : |(if k % 2 = 0 then (1 : Rat) else -1)| = 1 := by split <;> simp
    have h2 : (0 : Rat) ≤ (k : Rat) / ((n : Rat) - 1) + 1 :=
      add_nonneg (div_nonneg (Nat.cast_nonneg k) hn1.le) zero_le_one
    rw [h1, abs_of_nonneg h2, one_mul]
  rw [Finset.sum_congr rfl this, Finset.sum_add_distrib, ← Finset.sum_div, sum_range_cast]
  simp only [Finset.sum_const, card_range]
  field_simp
  ring

end Slu
