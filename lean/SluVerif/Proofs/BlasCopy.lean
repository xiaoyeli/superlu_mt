/- ?Copy_CompCol_Matrix and the permuted column view of sp_colorder preserve the matrix -/
import SluVerif.Proofs.BlasGemv
namespace Slu.Blas
open Finset
variable {α : Type}

theorem rd_copy_loop [Zero α] (f : Nat → α) (v : Array α) (n : Nat) (hn : n ≤ v.size) :
    ((List.range n).foldl (fun v i => wr v i (f i)) v).size = v.size ∧
    (∀ k < n, rd ((List.range n).foldl (fun v i => wr v i (f i)) v) k = f k) ∧
    (∀ k, n ≤ k → rd ((List.range n).foldl (fun v i => wr v i (f i)) v) k = rd v k) := by
  obtain ⟨a, b, c⟩ := rd_foldl_update (fun i => i) (fun i _ => f i) v n (fun k hk => by omega) (fun i _ j _ e => e)
  exact ⟨c, a, fun k hk => b k (fun i hi => by omega)⟩

/-- the dense matrix an `NCPformat` view denotes -/
def NCPMat.dense [CommRing α] (V : NCPMat α) (i j : Nat) : α :=
  ∑ k ∈ range (rdN V.colend j - rdN V.colbeg j),
    if rdN V.rowind (rdN V.colbeg j + k) = i then rd V.nzval (rdN V.colbeg j + k) else 0

section Ring
variable [CommRing α]

/-- `copy_spec` drops the sizes and `colptr` beyond `n` -/
theorem copyCompCol_spec (A B : NCMat α) (n : Nat) (hn : A.ncol = (n : Int))
    (hv : A.nnz ≤ B.nzval.size) (hr : A.nnz ≤ B.rowind.size) (hc : n + 1 ≤ B.colptr.size)
    (hext : ∀ j < n, A.cp (j + 1) ≤ A.nnz) :
    (copyCompCol A B).nrow = A.nrow ∧ (copyCompCol A B).ncol = A.ncol ∧ (copyCompCol A B).nnz = A.nnz ∧
    (copyCompCol A B).nzval.size = B.nzval.size ∧ (copyCompCol A B).rowind.size = B.rowind.size ∧
    (copyCompCol A B).colptr.size = B.colptr.size ∧
    (∀ k < A.nnz, (copyCompCol A B).nz k = A.nz k ∧ (copyCompCol A B).ri k = A.ri k) ∧
    (∀ k, A.nnz ≤ k → (copyCompCol A B).nz k = B.nz k ∧ (copyCompCol A B).ri k = B.ri k) ∧
    (∀ j ≤ n, (copyCompCol A B).cp j = A.cp j) ∧ (∀ j, n < j → (copyCompCol A B).cp j = B.cp j) ∧
    (∀ i, ∀ j < n, (copyCompCol A B).dense i j = A.dense i j) := by
  obtain ⟨v1, v2, v3⟩ := rd_copy_loop (fun i => rd A.nzval i) B.nzval A.nnz hv
  obtain ⟨r1, r2, r3⟩ := rd_copy_loop (fun i => rdN A.rowind i) B.rowind A.nnz hr
  obtain ⟨c1, c2, c3⟩ := rd_copy_loop (fun i => rdN A.colptr i) B.colptr (A.ncol.toNat + 1) (by omega)
  have hcell : ∀ k < A.nnz, (copyCompCol A B).nz k = A.nz k ∧ (copyCompCol A B).ri k = A.ri k :=
    fun k hk => ⟨v2 k hk, r2 k hk⟩
  have hcp : ∀ j ≤ n, (copyCompCol A B).cp j = A.cp j := fun j hj => c2 j (by omega)
  refine ⟨rfl, rfl, rfl, v1, r1, c1, hcell, fun k hk => ⟨v3 k hk, r3 k hk⟩, hcp, fun j hj => c3 j (by omega),
    fun i j hj => ?_⟩
  unfold NCMat.dense NCMat.clen
  rw [hcp j (by omega), hcp (j + 1) (by omega)]
  refine sum_congr rfl fun k hk => ?_
  have hlt : A.cp j + k < A.nnz := by
    have := hext j hj
    have := mem_range.mp hk
    omega
  rw [(hcell _ hlt).1, (hcell _ hlt).2]

/-- the view built by `colbeg[perm_c[i]] = colptr[i]; colend[perm_c[i]] = colptr[i+1]` is `A·Pc` and shares `A`'s
arrays (`permutedView_spec` drops the conjunct on the pointers) -/
theorem permutedView_spec_full (A : NCMat α) (permc : Array Nat) (n : Nat) (hn : A.ncol = (n : Int))
    (hlt : ∀ i < n, rdN permc i < n)
    (hinj : ∀ i < n, ∀ j < n, rdN permc i = rdN permc j → i = j) :
    (permutedView A permc).nrow = A.nrow ∧ (permutedView A permc).ncol = A.ncol ∧
    (permutedView A permc).nnz = A.nnz ∧ (permutedView A permc).nzval = A.nzval ∧
    (permutedView A permc).rowind = A.rowind ∧
    (∀ j < n, rdN (permutedView A permc).colbeg (rdN permc j) = A.cp j ∧
              rdN (permutedView A permc).colend (rdN permc j) = A.cp (j + 1)) ∧
    (∀ i, ∀ j < n, (permutedView A permc).dense i (rdN permc j) = A.dense i j) := by
  have hN : A.ncol.toNat = n := by rw [hn]; exact Int.toNat_natCast n
  have hptr : ∀ j < n, rdN (permutedView A permc).colbeg (rdN permc j) = A.cp j ∧
              rdN (permutedView A permc).colend (rdN permc j) = A.cp (j + 1) := by
    intro j hj
    unfold permutedView permutePtrs createCompColPermuted
    simp only [hN]
    rw [foldl_pair (fun cb i => wr cb (rdN permc i) (rdN A.colptr i))
      (fun ce i => wr ce (rdN permc i) (rdN A.colptr (i + 1)))]
    have hb : ∀ k < n, rdN permc k < (Array.replicate n 0).size := fun k hk => by simpa using hlt k hk
    obtain ⟨a1, -, -⟩ := rd_foldl_update (fun i => rdN permc i) (fun i _ => rdN A.colptr i)
      (Array.replicate n 0) n hb hinj
    obtain ⟨b1, -, -⟩ := rd_foldl_update (fun i => rdN permc i) (fun i _ => rdN A.colptr (i + 1))
      (Array.replicate n 0) n hb hinj
    exact ⟨a1 j hj, b1 j hj⟩
  refine ⟨rfl, rfl, rfl, rfl, rfl, hptr, ?_⟩
  intro i j hj
  unfold NCPMat.dense
  rw [(hptr j hj).1, (hptr j hj).2]
  rfl

end Ring

example : permutePtrs 3 #[2, 0, 1] #[0, 2, 2, 3] = (#[2, 2, 0], #[2, 3, 2]) := by decide
example : (copyCompCol (α := Int) { nrow := 2, ncol := 3, nnz := 3, colptr := #[0, 2, 2, 3], rowind := #[0, 1, 1], nzval := #[1, 2, 3] }
    { nrow := -1, ncol := -1, nnz := 0, colptr := #[9, 9, 9, 9, 9], rowind := #[8, 8, 8, 8], nzval := #[7, 7, 7, 7] }).nzval = #[1, 2, 3, 7] := by decide

end Slu.Blas
