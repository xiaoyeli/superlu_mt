/- the dense factors a supernodal `L` and a column-stored `U` denote, in sum form (`MLs`, `MUs` per supernode, `MLg`,
   `MUg` globally), the structural hypotheses of the sweeps (`SnOk`, `LOk`, `UOk`) and the block triangularity they
   give -/
import SluVerif.Proofs.BlasMem
import Mathlib.Algebra.Field.Rat
namespace Slu.Blas
open Finset

/-- consequences of `Snode.wf` -/
structure SnOk (n : Nat) (s : Snode) : Prop where
  f_lt_e : s.f < s.e
  e_le : s.e ≤ n
  nc_le : nsupc s ≤ nsupr s
  own : ∀ t < nsupc s, srow s t = s.f + t
  out : ∀ t, nsupc s ≤ t → t < nsupr s → s.e ≤ srow s t ∧ srow s t < n

/-- the rows of a U column lie above `f`, the first column of its supernode -/
def UcolOk (f : Nat) (c : UCol) : Prop := ∀ t < c.rows.size, urow c t < f

/-- L part of local column `jj`, by global row `i` -/
def snL (one : Int) (s : Snode) (i jj : Nat) : Rat :=
  ∑ t ∈ range (nsupr s), if srow s t = i ∧ jj < t then sA one s t jj else 0
/-- U part inside the rectangle -/
def snU (one : Int) (s : Snode) (i jj : Nat) : Rat :=
  ∑ t ∈ range (nsupr s), if srow s t = i ∧ t ≤ jj then sA one s t jj else 0
/-- a column of the NCP part of U, by global row -/
def ucolD (one : Int) (c : UCol) (i : Nat) : Rat :=
  ∑ t ∈ range c.rows.size, if urow c t = i then uval one c t else 0

/-- columns `[s.f, s.e)` of the dense unit lower factor -/
def MLs (one : Int) (s : Snode) (i j : Nat) : Rat := if i = j then 1 else snL one s i (j - s.f)
/-- columns `[s.f, s.e)` of the dense upper factor: rectangle part plus NCP column -/
def MUs (one : Int) (U : NCP) (s : Snode) (i j : Nat) : Rat :=
  snU one s i (j - s.f) + ucolD one (U.cols.getD j default) i

theorem SnOk.nc_eq {n : Nat} {s : Snode} (h : SnOk n s) : s.f + nsupc s = s.e := by
  have := h.f_lt_e
  unfold nsupc
  omega

theorem SnOk.sum_own {n : Nat} {s : Snode} (h : SnOk n s) (C : Nat → Prop) [DecidablePred C] (F : Nat → Rat)
    (i' : Nat) (hi : i' < nsupc s) :
    (∑ t ∈ range (nsupr s), if srow s t = s.f + i' ∧ C t then F t else 0) = if C i' then F i' else 0 := by
  have hnc := h.nc_eq
  rw [sum_eq_single_of_mem i' (mem_range.mpr (Nat.lt_of_lt_of_le hi h.nc_le)), h.own i' hi]
  · exact if_congr (and_iff_right rfl) rfl rfl
  · intro t ht hne
    by_cases htc : t < nsupc s
    · rw [h.own t htc, if_neg (by omega)]
    · have := (h.out t (by omega) (mem_range.mp ht)).1
      rw [if_neg (by omega)]

theorem snL_own {n : Nat} {one : Int} {s : Snode} (h : SnOk n s) (i' k : Nat) (hi : i' < nsupc s) :
    snL one s (s.f + i') k = if k < i' then sA one s i' k else 0 :=
  h.sum_own (fun t => k < t) (fun t => sA one s t k) i' hi

theorem snU_own {n : Nat} {one : Int} {s : Snode} (h : SnOk n s) (i' k : Nat) (hi : i' < nsupc s) :
    snU one s (s.f + i') k = if i' ≤ k then sA one s i' k else 0 :=
  h.sum_own (fun t => t ≤ k) (fun t => sA one s t k) i' hi

theorem snL_out {n : Nat} {one : Int} {s : Snode} (h : SnOk n s) (q k : Nat) (hq : q < s.f ∨ s.e ≤ q)
    (hk : k < nsupc s) :
    snL one s q k = ∑ i ∈ range (nsupr s - nsupc s),
      if srow s (nsupc s + i) = q then sA one s (nsupc s + i) k else 0 := by
  unfold snL
  have hnc := h.nc_eq
  have hsplit : nsupr s = nsupc s + (nsupr s - nsupc s) := by have := h.nc_le; omega
  rw [hsplit, sum_range_add]
  have hz : ∑ t ∈ range (nsupc s), (if srow s t = q ∧ k < t then sA one s t k else 0) = 0 := by
    apply sum_eq_zero
    intro t ht
    have := mem_range.mp ht
    rw [h.own t this, if_neg (by omega)]
  rw [hz, zero_add, ← hsplit]
  apply sum_congr rfl
  intro i _
  by_cases he : srow s (nsupc s + i) = q
  · rw [if_pos ⟨he, by omega⟩, if_pos he]
  · rw [if_neg (fun c => he c.1), if_neg he]

theorem snU_out {n : Nat} {one : Int} {s : Snode} (h : SnOk n s) (q k : Nat) (hq : q < s.f ∨ s.e ≤ q)
    (hk : k < nsupc s) : snU one s q k = 0 := by
  unfold snU
  have hnc := h.nc_eq
  apply sum_eq_zero
  intro t ht
  by_cases htc : t < nsupc s
  · rw [h.own t htc, if_neg (by omega)]
  · rw [if_neg (by omega)]

theorem ucolD_ge {one : Int} {f : Nat} {c : UCol} (h : UcolOk f c) (q : Nat) (hq : f ≤ q) : ucolD one c q = 0 := by
  unfold ucolD
  apply sum_eq_zero
  intro t ht
  have := h t (mem_range.mp ht)
  rw [if_neg (by omega)]

def snk (L : SCP) (k : Nat) : Snode := L.sn.getD k default
/-- `col_to_sup[j]` -/
def supOf (L : SCP) (j : Nat) : Nat := (geti L.colToSup j).toNat

def MLg (one : Int) (L : SCP) (i j : Nat) : Rat := MLs one (snk L (supOf L j)) i j
def MUg (one : Int) (L : SCP) (U : NCP) (i j : Nat) : Rat := MUs one U (snk L (supOf L j)) i j

/-- `sn` from `Snode.wf`, `sup_lt`/`sup_mem` from `colsCovered`, `sup_of_mem` from `partitionOk` (BlasTrsvWf.lean) -/
structure LOk (L : SCP) : Prop where
  sn : ∀ k < L.numSnodes, SnOk L.n (snk L k)
  sup_lt : ∀ j < L.n, supOf L j < L.numSnodes
  sup_mem : ∀ j < L.n, (snk L (supOf L j)).f ≤ j ∧ j < (snk L (supOf L j)).e
  sup_of_mem : ∀ k < L.numSnodes, ∀ j, (snk L k).f ≤ j → j < (snk L k).e → supOf L j = k
  /-- `depOrderOk`: sub-diagonal rows belong to later-numbered supernodes -/
  dep : ∀ k < L.numSnodes, ∀ t, nsupc (snk L k) ≤ t → t < nsupr (snk L k) → k < supOf L (srow (snk L k) t)

structure UOk (one : Int) (L : SCP) (U : NCP) : Prop where
  /-- above the block of `j`'s supernode (its cells are untouched by the column updates) and in an earlier-numbered
  supernode (block upper triangular in the sweep order) -/
  rows : ∀ j < L.n, ∀ t < (U.cols.getD j default).rows.size,
    urow (U.cols.getD j default) t < (snk L (supOf L j)).f ∧
    supOf L (urow (U.cols.getD j default) t) < supOf L j
  diag : ∀ k < L.numSnodes, ∀ kk < nsupc (snk L k), sA one (snk L k) kk kk ≠ 0

theorem mem_block_iff {L : SCP} (hL : LOk L) (k : Nat) (hk : k < L.numSnodes) (j : Nat) :
    j ∈ Ico (snk L k).f (snk L k).e ↔ (j < L.n ∧ supOf L j = k) := by
  rw [mem_Ico]
  constructor
  · intro ⟨h1, h2⟩
    exact ⟨by have := (hL.sn k hk).e_le; omega, hL.sup_of_mem k hk j h1 h2⟩
  · intro ⟨h1, h2⟩
    have := hL.sup_mem j h1
    rw [h2] at this
    exact this

theorem UOk.colOk {one : Int} {L : SCP} {U : NCP} (hL : LOk L) (hU : UOk one L U) (k : Nat) (hk : k < L.numSnodes) :
    ∀ kk < nsupc (snk L k), UcolOk (snk L k).f (U.cols.getD ((snk L k).f + kk) default) := by
  intro kk hkk t ht
  have hsn := hL.sn k hk
  have hnc := hsn.nc_eq
  have hj : (snk L k).f + kk < L.n := by have := hsn.e_le; omega
  have hsup : supOf L ((snk L k).f + kk) = k := hL.sup_of_mem k hk _ (by omega) (by omega)
  have := (hU.rows _ hj t ht).1
  rw [hsup] at this
  exact this

theorem outside_of_sup_ne {L : SCP} (hL : LOk L) {k : Nat} (hk : k < L.numSnodes) (i : Nat)
    (hne : supOf L i ≠ k) : i < (snk L k).f ∨ (snk L k).e ≤ i := by
  by_contra hc
  exact hne ((mem_block_iff hL k hk i).mp (mem_Ico.mpr (by omega))).2

theorem MLg_eq_zero {L : SCP} (hL : LOk L) (one : Int) {i j : Nat} (hj : j < L.n)
    (h : supOf L i < supOf L j) : MLg one L i j = 0 := by
  have hk := hL.sup_lt j hj
  have hm := hL.sup_mem j hj
  have hsn := hL.sn _ hk
  have hnc := hsn.nc_eq
  unfold MLg MLs
  rw [if_neg (fun e => by rw [e] at h; omega),
    snL_out hsn i _ (outside_of_sup_ne hL hk i (by omega)) (by omega)]
  refine sum_eq_zero fun t ht => if_neg fun e => ?_
  have := mem_range.mp ht
  have := hL.dep _ hk (nsupc (snk L (supOf L j)) + t) (by omega) (by omega)
  rw [e] at this; omega

theorem MUg_eq_zero {one : Int} {L : SCP} {U : NCP} (hL : LOk L) (hU : UOk one L U) {i j : Nat}
    (hj : j < L.n) (h : supOf L j < supOf L i) : MUg one L U i j = 0 := by
  have hk := hL.sup_lt j hj
  have hm := hL.sup_mem j hj
  have hnc := (hL.sn _ hk).nc_eq
  unfold MUg MUs
  rw [snU_out (hL.sn _ hk) i _ (outside_of_sup_ne hL hk i (by omega)) (by omega), zero_add]
  refine sum_eq_zero fun t ht => if_neg fun e => ?_
  have := (hU.rows j hj t (mem_range.mp ht)).2
  rw [e] at this; omega

theorem MLg_of_mem {L : SCP} (hL : LOk L) (one : Int) {k : Nat} (hk : k < L.numSnodes) (i : Nat) {j : Nat}
    (hj : j ∈ Ico (snk L k).f (snk L k).e) : MLs one (snk L k) i j = MLg one L i j := by
  unfold MLg; rw [((mem_block_iff hL k hk j).mp hj).2]

theorem MUg_of_mem {L : SCP} (hL : LOk L) (one : Int) (U : NCP) {k : Nat} (hk : k < L.numSnodes) (i : Nat) {j : Nat}
    (hj : j ∈ Ico (snk L k).f (snk L k).e) : MUs one U (snk L k) i j = MUg one L U i j := by
  unfold MUg; rw [((mem_block_iff hL k hk j).mp hj).2]

/-- round `k` of a downward sweep -/
theorem mem_block_rev {L : SCP} (hL : LOk L) (k : Nat) (hk : k < L.numSnodes) (j : Nat) :
    j ∈ Ico (snk L (L.numSnodes - 1 - k)).f (snk L (L.numSnodes - 1 - k)).e ↔
      j < L.n ∧ L.numSnodes - 1 - supOf L j = k := by
  rw [mem_block_iff hL _ (by omega)]
  exact and_congr_right fun hj => by have := hL.sup_lt j hj; omega

end Slu.Blas
