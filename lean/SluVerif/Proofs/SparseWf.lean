/- The conjuncts of the executable checks `SCP.wf`, `Snode.wf`, `NCP.wf` that triangularity and the solves rest on, as
propositions.  The extent-disjointness, value-rectangle and `nnz` conjuncts are only evaluated, never read off. -/
import SluVerif.Model.Sparse
import SluVerif.Proofs.ArrayLemmas

namespace Slu

theorem wf_parts (L : SCP) (h : L.wf = true) :
    L.partitionOk = true ∧ (L.sn.all (fun s => s.wf L.n)) = true ∧ L.depOrderOk = true ∧ L.colsCovered = true := by
  unfold SCP.wf at h
  simp only [Bool.and_eq_true] at h
  -- partitionOk, every `Snode.wf`, row extents disjoint, value extents disjoint, nnz = countL, depOrderOk, colsCovered
  obtain ⟨⟨⟨⟨⟨⟨h1, h2⟩, _⟩, _⟩, _⟩, h6⟩, h7⟩ := h
  exact ⟨h1, h2, h6, h7⟩

/-- `s = col_to_sup[j]` indexes a stored supernode that contains column `j` and is itself well-formed -/
theorem wf_col_covered (L : SCP) (h : L.wf = true) (j : Nat) (hj : j < L.n) :
    (0 ≤ geti L.colToSup j ∧ (geti L.colToSup j).toNat < L.sn.size) ∧
    (L.sn.getD (geti L.colToSup j).toNat default).f ≤ j ∧ j < (L.sn.getD (geti L.colToSup j).toNat default).e ∧
    (L.sn.getD (geti L.colToSup j).toNat default).wf L.n = true := by
  obtain ⟨_, hsn, _, hcov⟩ := wf_parts L h
  have := (all_range_iff _ _).1 hcov j hj
  simp only [Bool.and_eq_true, decide_eq_true_eq] at this
  -- 0 ≤ s, s < #supernodes, f ≤ j, j < e   (s = col_to_sup[j])
  obtain ⟨⟨⟨h0, hlt⟩, hf⟩, he⟩ := this
  have hw := Array.all_eq_true.1 hsn _ hlt
  rw [Array.getElem_eq_getD default] at hw
  exact ⟨⟨h0, hlt⟩, hf, he, hw⟩

theorem wf_depOrder (L : SCP) (h : L.wf = true) (s : Nat) (hs : s < L.sn.size) (r : Int)
    (hr : r ∈ (L.sn.getD s default).rows.toList.drop ((L.sn.getD s default).e - (L.sn.getD s default).f)) :
    (s : Int) < geti L.colToSup r.toNat := by
  have := (all_range_iff _ _).1 (wf_parts L h).2.2.1 s hs
  simp only [List.all_eq_true, decide_eq_true_eq] at this
  exact this r hr

theorem snode_wf_rows (n : Nat) (s : Snode) (h : s.wf n = true) :
    s.f < s.e ∧ s.e ≤ n ∧ s.e - s.f ≤ s.rows.size ∧
    (∀ k, k < s.e - s.f → geti s.rows k = ((s.f + k : Nat) : Int)) ∧
    (∀ r ∈ s.rows.toList.drop (s.e - s.f), (s.e : Int) ≤ r ∧ r < (n : Int)) ∧
    (s.rows.toList.drop (s.e - s.f)).Nodup := by
  unfold Snode.wf at h
  simp only [Bool.and_eq_true, decide_eq_true_eq, List.all_eq_true, beq_iff_eq, List.mem_range] at h
  -- f < e, e ≤ n, w ≤ #rows, 0 ≤ rowBeg, own columns first, then larger in-range rows, those distinct,
  -- #vals = w, #nzBeg = w, one value rectangle, 0 ≤ nzBeg[0]   (w = e - f)
  obtain ⟨⟨⟨⟨⟨⟨⟨⟨⟨⟨h1, h2⟩, h3⟩, _⟩, h5⟩, h6⟩, h7⟩, _⟩, _⟩, _⟩, _⟩ := h
  exact ⟨h1, h2, h3, h5, h6, h7⟩

theorem ncp_wf_parts (L : SCP) (U : NCP) (h : U.wf L = true) :
    U.n = L.n ∧ ∀ j, j < L.n →
      (∀ r ∈ (U.cols.getD j default).rows.toList, 0 ≤ r ∧ r < (L.fsupc j : Int) ∧
          geti L.colToSup r.toNat < geti L.colToSup j) ∧
      (U.cols.getD j default).rows.toList.Nodup := by
  unfold NCP.wf at h
  simp only [Bool.and_eq_true, decide_eq_true_eq, List.all_eq_true, List.mem_range, beq_iff_eq] at h
  -- U.n = L.n, #cols = n, per column, extents disjoint, nnz count
  obtain ⟨⟨⟨⟨h1, _⟩, h3⟩, _⟩, _⟩ := h
  refine ⟨h1, fun j hj => ?_⟩
  -- per column: (#rows = #vals, 0 ≤ beg), every row above the supernode and in an earlier one, rows distinct
  obtain ⟨⟨_, a3⟩, a4⟩ := h3 j (h1 ▸ hj)
  exact ⟨fun r hr => ⟨(a3 r hr).1.1, (a3 r hr).1.2, (a3 r hr).2⟩, a4⟩

theorem geti_eq_getElem {a : Array Int} (t : Nat) (h : t < a.size) : geti a t = a.toList[t]'(by simpa using h) :=
  dif_pos h

theorem geti_drop (a : Array Int) (w t : Nat) (hw : w ≤ t) (h : t < a.size) :
    geti a t = (a.toList.drop w)[t - w]'(by simp; omega) := by
  rw [geti_eq_getElem t h, List.getElem_drop]
  congr 1
  omega

theorem geti_mem_drop (rows : Array Int) (w k : Nat) (hw : w ≤ k) (hk : k < rows.size) :
    geti rows k ∈ rows.toList.drop w := by
  rw [geti_drop rows w k hw hk]
  exact List.getElem_mem _

theorem geti_mem {rows : Array Int} (k : Nat) (hk : k < rows.size) : geti rows k ∈ rows.toList :=
  geti_mem_drop rows 0 k (Nat.zero_le k) hk

theorem rowPos_some (rows : Array Int) (i k : Nat) (hp : rowPos rows i = some k) :
    k < rows.size ∧ geti rows k = (i : Int) := by
  unfold rowPos at hp
  simp only [Option.ite_none_right_eq_some, Option.some.injEq] at hp
  obtain ⟨hlt, rfl⟩ := hp
  refine ⟨hlt, ?_⟩
  rw [geti_eq_getElem _ hlt]
  exact List.getElem_idxOf _

/-- in a well-formed supernode an own column `i` sits at offset `i - f`, any other row after the `e - f` own ones -/
theorem rowPos_wf (n : Nat) (s : Snode) (h : s.wf n = true) (i k : Nat) (hp : rowPos s.rows i = some k) :
    s.f ≤ i ∧ (i < s.e → k = i - s.f) ∧ (s.e ≤ i → s.e - s.f ≤ k) := by
  obtain ⟨_, _, _, h5, h6, _⟩ := snode_wf_rows n s h
  obtain ⟨hk, hget⟩ := rowPos_some s.rows i k hp
  by_cases hkw : k < s.e - s.f
  · have := h5 k hkw
    omega
  · have := (h6 _ (hget ▸ geti_mem_drop s.rows (s.e - s.f) k (by omega) hk)).1
    omega

end Slu
