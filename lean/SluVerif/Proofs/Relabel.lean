/- scatter loops (`out[p[i]] = f i`) and the relabelling of the etree by the postorder: the relabelled
   forest is `Postordered`. -/
import SluVerif.Proofs.PostorderMain
namespace Slu.Pre

theorem scatter_size (n : Nat) (p : Array Nat) (f : Nat → Nat) (out : Array Nat) :
    (scatter n p f out).size = out.size :=
  foldl_keeps Array.size _ (fun _ _ => Array.size_setIfInBounds)

theorem scatter_get {n : Nat} {p : Array Nat} {f : Nat → Nat} {out : Array Nat} (hp : PermOn n p)
    (hs : n ≤ out.size) {i : Nat} (hi : i < n) : getN (scatter n p f out) (getN p i) = f i := by
  have := foldl_range_inv (fun a i => a.setIfInBounds (getN p i) (f i))
    (fun k a => a.size = out.size ∧ ∀ i, i < k → getN a (getN p i) = f i) out n ⟨rfl, fun i hi => by omega⟩
    fun k a hk ⟨hsz, h⟩ => ⟨by rw [Array.size_setIfInBounds, hsz], fun i hik => by
      rcases Nat.lt_succ_iff_lt_or_eq.1 hik with hlt | rfl
      · -- a later write goes elsewhere, `p` being injective
        rw [getN_set_ne fun e => Nat.ne_of_lt hlt (hp.2 i k (by omega) hk e.symm), h i hlt]
      · exact getN_set_self (by have := hp.1 i hk; omega)⟩
  exact this.2 i hi

/-- parents are larger, and the subtree of `v` is the index range `[v + 1 - s, v]`, `s` its size -/
def Postordered (n : Nat) (par : Array Nat) : Prop :=
  par.size = n ∧ (∀ v, v < n → v < getN par v ∧ getN par v ≤ n) ∧
  ∀ v, v < n → ∃ s, 1 ≤ s ∧ s ≤ v + 1 ∧
    ∀ u, u < n → (Desc (getN par) n v u ↔ (v + 1 - s ≤ u ∧ u ≤ v))

section main
variable {n : Nat} {parent : Array Nat} {rank : Nat → Nat}

theorem relabel_get (c : FCtx (getN parent) n rank) {i : Nat} (hi : i < n) :
    getN (relabelEtree n (treePostorder n parent) parent) (getN (treePostorder n parent) i) =
      getN (treePostorder n parent) (getN parent i) := by
  unfold relabelEtree
  exact scatter_get (post_permOn c) (by simp) hi

/-- a numbering `q` of `0..n` that fixes `n` and lists every subtree as an interval ending at its root: the forest
relabelled by it (`par'[q i] = q (par i)`) is `Postordered` -/
theorem postordered_of_numbering {par : Nat → Nat} {n : Nat} {rank : Nat → Nat} (c : FCtx par n rank)
    {q : Nat → Nat} {par' : Array Nat} (hs : par'.size = n) (hqn : q n = n) (hle : ∀ x, x ≤ n → q x ≤ n)
    (hinj : ∀ x y, x ≤ n → y ≤ n → q x = q y → x = y) (hsurj : ∀ i', i' < n → ∃ i, i < n ∧ q i = i')
    (hrel : ∀ i, i < n → getN par' (q i) = q (par i))
    (hseg : ∀ v, v ≤ n → ∃ a s, 1 ≤ s ∧ q v + 1 = a + s ∧
      ∀ x, x ≤ n → (Desc par n v x ↔ a ≤ q x ∧ q x ≤ q v)) :
    Postordered n par' := by
  have hlt : ∀ i, i < n → q i < n := fun i hi =>
    Nat.lt_of_le_of_ne (hle i (Nat.le_of_lt hi)) fun h =>
      Nat.ne_of_lt hi (hinj i n (Nat.le_of_lt hi) (Nat.le_refl _) (h.trans hqn.symm))
  -- `q` carries the descendant relation over, in both directions
  have desc_fwd : ∀ a b, Desc par n a b → Desc (getN par') n (q a) (q b) := by
    intro a b h
    induction h with
    | refl => exact Desc.refl _
    | step hx _ ih => exact Desc.step (hlt _ hx) (by rw [hrel _ hx]; exact ih)
  have desc_bwd : ∀ a' b', Desc (getN par') n a' b' →
      ∀ a b, a ≤ n → b ≤ n → q a = a' → q b = b' → Desc par n a b := by
    intro a' b' h
    induction h with
    | refl =>
        intro a b ha hb h1 h2
        rw [hinj a b ha hb (h1.trans h2.symm)]
        exact Desc.refl _
    | @step x' hx _ ih =>
        intro a b ha hb h1 h2
        have hbn : b < n := Nat.lt_of_le_of_ne hb fun h => by
          rw [h] at h2
          omega
        exact Desc.step hbn (ih a (par b) ha (c.hp b hbn) h1 (by rw [← h2, hrel b hbn]))
  refine ⟨hs, fun v' hv' => ?_, fun v' hv' => ?_⟩
  · obtain ⟨v, hv, rfl⟩ := hsurj v' hv'
    rw [hrel v hv]
    obtain ⟨a, s, _, _, hsg⟩ := hseg _ (c.hp v hv)
    have h1 := ((hsg v (Nat.le_of_lt hv)).1 (Desc.step hv (Desc.refl _))).2
    have h2 : q v ≠ q (par v) := fun h => by
      have e := hinj _ _ (Nat.le_of_lt hv) (c.hp v hv) h
      have hr := c.hr v hv
      rw [← e] at hr
      omega
    exact ⟨by omega, hle _ (c.hp v hv)⟩
  · obtain ⟨v, hv, rfl⟩ := hsurj v' hv'
    obtain ⟨a, s, hs1, hs2, hsg⟩ := hseg v (Nat.le_of_lt hv)
    refine ⟨s, hs1, by omega, fun u' hu' => ?_⟩
    obtain ⟨u, hu, rfl⟩ := hsurj u' hu'
    rw [show q v + 1 - s = a by omega, ← hsg u (Nat.le_of_lt hu)]
    exact ⟨fun h => desc_bwd _ _ h v u (Nat.le_of_lt hv) (Nat.le_of_lt hu) rfl rfl, desc_fwd _ _⟩

theorem postordered_relabel (c : FCtx (getN parent) n rank) :
    Postordered n (relabelEtree n (treePostorder n parent) parent) := by
  obtain ⟨g, hg, _⟩ := post_inverse c
  exact postordered_of_numbering c (by simp [relabelEtree, scatter_size]) (post_root c) (fun _ => post_le c)
    (fun _ _ => post_inj c) (fun i' hi' => ⟨g i', hg i' hi'⟩) (fun _ => relabel_get c) (fun _ => post_seg c)

end main

end Slu.Pre
