/- C11: clip / reciprocal arithmetic, the reported ratio as min/max of the returned factors, the column maxima of
`diag(R)·A`, closed forms of the two halves of gsequ -/
import SluVerif.Proofs.EquilRows

namespace Slu.Equil
open Entry

/-- `SUPERLU_MIN(SUPERLU_MAX(x, smlnum), bignum)` -/
def clip (sml big x : Rat) : Rat := min (max x sml) big

theorem clipInv_eq (sml big x : Rat) : clipInv sml big x = 1 / clip sml big x := by
  unfold clipInv clip
  rw [rmax_eq, rmin_eq]

theorem clip_ge (sml big x : Rat) (hb : sml ≤ big) : sml ≤ clip sml big x :=
  le_min (le_max_right _ _) hb

theorem clip_le (sml big x : Rat) : clip sml big x ≤ big := min_le_right _ _

theorem clip_pos (sml big x : Rat) (hs : 0 < sml) (hb : sml ≤ big) : 0 < clip sml big x :=
  lt_of_lt_of_le hs (clip_ge sml big x hb)

theorem clip_of_mem (sml big x : Rat) (h1 : sml ≤ x) (h2 : x ≤ big) : clip sml big x = x := by
  unfold clip
  rw [max_eq_left h1, min_eq_left h2]

theorem clip_mono (sml big : Rat) {x y : Rat} (h : x ≤ y) : clip sml big x ≤ clip sml big y :=
  min_le_min_right _ (max_le_max_right _ h)

theorem clipInv_pos (sml big x : Rat) (hs : 0 < sml) (hb : sml ≤ big) : 0 < clipInv sml big x := by
  rw [clipInv_eq]
  exact one_div_pos.mpr (clip_pos sml big x hs hb)

theorem map_clipInv_pos (sml big : Rat) (hs : 0 < sml) (hb : sml ≤ big) {v : List Rat} :
    ∀ y ∈ v.map (clipInv sml big), 0 < y :=
  List.forall_mem_map.mpr fun x _ => clipInv_pos sml big x hs hb

theorem clipInv_mul_self (sml big : Rat) {x : Rat} (hs : 0 < sml) (h1 : sml ≤ x) (h2 : x ≤ big) :
    clipInv sml big x * x = 1 := by
  rw [clipInv_eq, clip_of_mem sml big x h1 h2]
  have : x ≠ 0 := ne_of_gt (lt_of_lt_of_le hs h1)
  field_simp

theorem clipInv_anti (sml big : Rat) (hs : 0 < sml) (hb : sml ≤ big) {x y : Rat} (h : x ≤ y) :
    clipInv sml big y ≤ clipInv sml big x := by
  rw [clipInv_eq, clipInv_eq]
  exact one_div_le_one_div_of_le (clip_pos sml big x hs hb) (clip_mono sml big h)

/-- the numerator `SUPERLU_MAX(rcmin, smlnum)` of the reported ratio is the clipped minimum -/
theorem max_min_eq_clip (sml big x : Rat) (hb : sml ≤ big) : max (min x big) sml = clip sml big x := by
  unfold clip
  rcases le_total x big with h | h
  · rw [min_eq_left h]
    exact (min_eq_left (max_le h hb)).symm
  · rw [min_eq_right h, max_eq_left hb]
    have : big ≤ max x sml := le_trans h (le_max_left _ _)
    exact (min_eq_right this).symm

/-- the denominator `SUPERLU_MIN(rcmax, bignum)` is the clipped maximum only when `rcmax ≥ smlnum` -/
theorem min_eq_clip (sml big x : Rat) (h : sml ≤ x) : min x big = clip sml big x := by
  unfold clip
  rw [max_eq_left h]

/-- `max(rcmin, smlnum) / min(rcmax, bignum)` as gsequ computes it is (smallest)/(largest) of the factors
`1/clip(v_k)`, provided the running maximum reaches `smlnum` (else the denominator is no clip: `min_eq_clip`). -/
theorem ratio_is_min_over_max (sml big : Rat) (hs : 0 < sml) (hb : sml ≤ big) (v : List Rat)
    (hne : v ≠ []) (hmax : sml ≤ fmax 0 v) :
    ∃ ra ∈ v.map (clipInv sml big), ∃ rb ∈ v.map (clipInv sml big),
      (∀ y ∈ v.map (clipInv sml big), ra ≤ y ∧ y ≤ rb) ∧
      max (fmin big v) sml / min (fmax 0 v) big = ra / rb := by
  have hM : fmax 0 v ∈ v := (fmax_mem_or_init 0 v).resolve_left fun h => absurd (h ▸ hmax) (not_le.mpr hs)
  -- an element with the clip of the running minimum: the minimum itself, or any element if none is below `big`
  have hm : ∃ a ∈ v, clip sml big a = clip sml big (fmin big v) := by
    rcases fmin_mem_or_init big v with h | h
    · obtain ⟨a, ha⟩ := List.exists_mem_of_ne_nil v hne
      refine ⟨a, ha, le_antisymm ?_ (clip_mono sml big (fmin_le_mem big v a ha))⟩
      rw [h, clip_of_mem sml big big hb (le_refl big)]
      exact clip_le sml big a
    · exact ⟨_, h, rfl⟩
  obtain ⟨a, ha, hca⟩ := hm
  have hia : clipInv sml big a = clipInv sml big (fmin big v) := by rw [clipInv_eq, clipInv_eq, hca]
  refine ⟨_, List.mem_map_of_mem hM, _, List.mem_map_of_mem ha, ?_, ?_⟩
  · rw [hia]
    exact List.forall_mem_map.mpr fun x hx =>
      ⟨clipInv_anti sml big hs hb (fmax_ge_mem 0 v x hx), clipInv_anti sml big hs hb (fmin_le_mem big v x hx)⟩
  · have hcm : clip sml big (fmin big v) = max (fmin big v) sml := by
      rw [← max_min_eq_clip sml big _ hb, min_eq_left (fmin_le_init big v)]
    rw [hia, clipInv_eq, clipInv_eq, hcm, min_eq_clip sml big _ hmax]
    field_simp

section
variable {E : Type} [Entry E]

def SpMat.col (A : SpMat E) (j : Nat) : List (Nat × E) := A.cols.getD j []

omit [Entry E] in
theorem SpMat.col_get (A : SpMat E) (j : Nat) (hj : j < A.ncol) : A.cols[j]? = some (A.col j) := by
  unfold SpMat.col SpMat.ncol at *
  rw [List.getD_eq_getElem?_getD, List.getElem?_eq_getElem hj]
  rfl

omit [Entry E] in
theorem SpMat.col_mem_stored (A : SpMat E) (j : Nat) (e : Nat × E) (he : e ∈ A.col j) : e ∈ A.stored := by
  unfold SpMat.col at he
  rw [List.getD_eq_getElem?_getD] at he
  unfold SpMat.stored
  cases h : A.cols[j]? with
  | none =>
    rw [h] at he
    simp at he
  | some c =>
    rw [h] at he
    exact List.mem_flatten.mpr ⟨c, List.mem_of_getElem? h, he⟩

/-- largest `|a|·r[irow]` of column `j` -/
def colMaxS (A : SpMat E) (r : List Rat) (j : Nat) : Rat := fmax 0 (colMags r (A.col j))

theorem colMaxPass_get (A : SpMat E) (r : List Rat) (j : Nat) (hj : j < A.ncol) :
    (colMaxPass A r)[j]? = some (colMaxS A r j) := by
  unfold colMaxPass
  rw [List.getElem?_map, A.col_get j hj]
  exact congrArg some (colMax_eq r _)

theorem colMaxPass_eq_map (A : SpMat E) (r : List Rat) :
    colMaxPass A r = (List.range A.ncol).map (colMaxS A r) :=
  eq_map_range (colMaxPass_length A r) (colMaxPass_get A r)

theorem colMaxS_nonneg (A : SpMat E) (r : List Rat) (j : Nat) : 0 ≤ colMaxS A r j := fmax_ge_init 0

theorem colMaxS_ge (A : SpMat E) (r : List Rat) (j : Nat) (e : Nat × E) (he : e ∈ A.col j) :
    mag e.2 * r.getD e.1 0 ≤ colMaxS A r j := by
  unfold colMaxS colMags
  exact le_fmax_map 0 _ he

theorem colMaxS_attained (A : SpMat E) (r : List Rat) (j : Nat) :
    colMaxS A r j = 0 ∨ ∃ e ∈ A.col j, mag e.2 * r.getD e.1 0 = colMaxS A r j := by
  unfold colMaxS colMags
  exact fmax_map_attained 0 _ _

theorem rowMaxPass_nonneg (A : SpMat E) : ∀ x ∈ rowMaxPass A, 0 ≤ x := by
  rw [rowMaxPass_eq_map]
  exact List.forall_mem_map.mpr fun i _ => rowMax_nonneg A i

theorem colMaxPass_nonneg (A : SpMat E) (r : List Rat) : ∀ x ∈ colMaxPass A r, 0 ≤ x := by
  rw [colMaxPass_eq_map]
  exact List.forall_mem_map.mpr fun j _ => colMaxS_nonneg A r j

theorem gsequRowPart_eq (sml big : Rat) (hb : 0 < big) (A : SpMat E) (s : GsState) :
    gsequRowPart sml big A s =
      match firstZero (rowMaxPass A) with
      | some i => ({ s with r := rowMaxPass A, amax := fmax 0 (rowMaxPass A), info := (i : Int) + 1 }, false)
      | none =>
        ({ s with r := (rowMaxPass A).map (clipInv sml big), amax := fmax 0 (rowMaxPass A), info := 0,
                  rowcnd := max (fmin big (rowMaxPass A)) sml / min (fmax 0 (rowMaxPass A)) big }, true) := by
  have ht := fmin_zero_test big hb (rowMaxPass_nonneg A)
  unfold gsequRowPart
  cases hz : firstZero (rowMaxPass A) with
  | none =>
    -- test `rcmin == 0.` fails
    rw [hz, Option.isSome_none] at ht
    simp only [scanMinMax_eq, ht, Bool.false_eq_true, if_false, rmax_eq, rmin_eq]
  | some i =>
    -- test succeeds, the search finds `i`
    rw [hz, Option.isSome_some] at ht
    simp only [scanMinMax_eq, ht, if_true, hz]

theorem gsequColPart_eq (sml big : Rat) (hb : 0 < big) (A : SpMat E) (s2 : GsState) :
    gsequColPart sml big A s2 =
      match firstZero (colMaxPass A s2.r) with
      | some j => { s2 with c := colMaxPass A s2.r, info := (A.nrow : Int) + (j : Int) + 1 }
      | none =>
        { s2 with c := (colMaxPass A s2.r).map (clipInv sml big),
                  colcnd := max (fmin big (colMaxPass A s2.r)) sml / min (fmax 0 (colMaxPass A s2.r)) big } := by
  have ht := fmin_zero_test big hb (colMaxPass_nonneg A s2.r)
  unfold gsequColPart
  cases hz : firstZero (colMaxPass A s2.r) with
  | none =>
    rw [hz, Option.isSome_none] at ht
    simp only [scanMinMax_eq, ht, Bool.false_eq_true, if_false, rmax_eq, rmin_eq]
  | some j =>
    rw [hz, Option.isSome_some] at ht
    simp only [scanMinMax_eq, ht, if_true, hz]

theorem gsequColPart_frame (sml big : Rat) (hb : 0 < big) (A : SpMat E) (s2 : GsState) :
    (gsequColPart sml big A s2).r = s2.r ∧ (gsequColPart sml big A s2).amax = s2.amax ∧
    (gsequColPart sml big A s2).rowcnd = s2.rowcnd := by
  rw [gsequColPart_eq sml big hb]
  cases firstZero (colMaxPass A s2.r) <;> exact ⟨rfl, rfl, rfl⟩

end

section
variable {E : Type} [Entry E] [Zero E] [LawfulEntry E]

theorem colMaxS_eq_zero_iff (A : SpMat E) (r : List Rat) (j : Nat)
    (hr : ∀ e ∈ A.col j, 0 < r.getD e.1 0) :
    colMaxS A r j = 0 ↔ ∀ e ∈ A.col j, e.2 = 0 := by
  constructor
  · intro h e he
    have h1 := colMaxS_ge A r j e he
    rw [h] at h1
    exact (LawfulEntry.mag_eq_zero e.2).mp
      (le_antisymm (nonpos_of_mul_nonpos_left h1 (hr e he)) (LawfulEntry.mag_nonneg e.2))
  · intro h
    rcases colMaxS_attained A r j with h0 | ⟨e, he, hm⟩
    · exact h0
    · rw [← hm, (LawfulEntry.mag_eq_zero e.2).mpr (h e he), zero_mul]

end

end Slu.Equil
