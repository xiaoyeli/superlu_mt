/- Invariant of the scan loop of `pivotL` after the candidates `lo ≤ i < hi`. -/
import SluVerif.Model.Pivot
import Mathlib.Algebra.Order.Field.Rat

namespace Slu

structure ScanInv (rows : Array Int) (mags : Array Rat) (usepr : Bool) (pivrow diagInd : Int)
    (lo hi : Nat) (s : Scan) : Prop where
  nonneg : 0 ≤ s.pivmax
  ub : ∀ i, lo ≤ i ∧ i < hi → mags.getD i 0 ≤ s.pivmax
  zero : s.pivmax = 0 → s.pivptr = lo
  /-- the first position of the maximum (strict `>` in the loop) -/
  arg : s.pivmax ≠ 0 → (lo ≤ s.pivptr ∧ s.pivptr < hi) ∧ mags.getD s.pivptr 0 = s.pivmax ∧
          ∀ i, lo ≤ i ∧ i < s.pivptr → mags.getD i 0 < s.pivmax
  diagSome : ∀ d, s.diag = some d → (lo ≤ d ∧ d < hi) ∧ rows.getD d 0 = diagInd
  diagNone : s.diag = none → ∀ i, lo ≤ i ∧ i < hi → rows.getD i 0 ≠ diagInd
  /-- `oldPtr` is still `lo` (no match yet; always so without a reuse request) or a position of the old pivot row -/
  old : (s.oldPtr = lo ∧ (usepr = true → ∀ i, lo ≤ i ∧ i < hi → rows.getD i 0 ≠ pivrow)) ∨
        (usepr = true ∧ (lo ≤ s.oldPtr ∧ s.oldPtr < hi) ∧ rows.getD s.oldPtr 0 = pivrow)

variable {rows : Array Int} {mags : Array Rat} {usepr : Bool} {pivrow diagInd : Int}

theorem scanInv_init {lo hi : Nat} (h : hi ≤ lo) :
    ScanInv rows mags usepr pivrow diagInd lo hi (scanInit lo) where
  nonneg := le_refl _
  ub := fun i hr => by omega
  zero := fun _ => rfl
  arg := fun h0 => absurd rfl h0
  diagSome := fun d hd => nomatch hd
  diagNone := fun _ i hr => by omega
  old := .inl ⟨rfl, fun _ i hr => by omega⟩

theorem scanStep_pivmax (s : Scan) (i : Nat) :
    (scanStep rows mags usepr pivrow diagInd s i).pivmax =
      if mags.getD i 0 > s.pivmax then mags.getD i 0 else s.pivmax := by
  simp only [scanStep, apply_ite Scan.pivmax, ite_self]

theorem scanStep_pivptr (s : Scan) (i : Nat) :
    (scanStep rows mags usepr pivrow diagInd s i).pivptr = if mags.getD i 0 > s.pivmax then i else s.pivptr := by
  simp only [scanStep, apply_ite Scan.pivptr, ite_self]

theorem scanStep_oldPtr (s : Scan) (i : Nat) :
    (scanStep rows mags usepr pivrow diagInd s i).oldPtr =
      if usepr = true ∧ rows.getD i 0 = pivrow then i else s.oldPtr := by
  simp only [scanStep, apply_ite Scan.oldPtr, ite_self, Bool.and_eq_true, beq_iff_eq]

theorem scanStep_diag (s : Scan) (i : Nat) :
    (scanStep rows mags usepr pivrow diagInd s i).diag = if rows.getD i 0 = diagInd then some i else s.diag := by
  simp only [scanStep, apply_ite Scan.diag, ite_self, beq_iff_eq]

theorem scanInv_step {lo hi : Nat} {s : Scan} (hle : lo ≤ hi)
    (h : ScanInv rows mags usepr pivrow diagInd lo hi s) :
    ScanInv rows mags usepr pivrow diagInd lo (hi + 1) (scanStep rows mags usepr pivrow diagInd s hi) := by
  have hlast : ∀ {i}, lo ≤ i ∧ i < hi + 1 → (lo ≤ i ∧ i < hi) ∨ i = hi := fun h => by omega
  have hhi : lo ≤ hi ∧ hi < hi + 1 := ⟨hle, Nat.lt_succ_self _⟩
  have hmono : ∀ {i}, lo ≤ i ∧ i < hi → lo ≤ i ∧ i < hi + 1 := fun h => ⟨h.1, Nat.lt_succ_of_lt h.2⟩
  constructor
  case nonneg =>
    rw [scanStep_pivmax]
    by_cases hgt : mags.getD hi 0 > s.pivmax
    · rw [if_pos hgt]
      exact le_trans h.nonneg (le_of_lt hgt)
    · rw [if_neg hgt]
      exact h.nonneg
  case ub =>
    intro i hi'
    rw [scanStep_pivmax]
    by_cases hgt : mags.getD hi 0 > s.pivmax
    · rw [if_pos hgt]
      rcases hlast hi' with h1 | rfl
      · exact le_trans (h.ub i h1) (le_of_lt hgt)
      · exact le_refl _
    · rw [if_neg hgt]
      rcases hlast hi' with h1 | rfl
      · exact h.ub i h1
      · exact not_lt.1 hgt
  case zero =>
    rw [scanStep_pivmax, scanStep_pivptr]
    by_cases hgt : mags.getD hi 0 > s.pivmax
    · rw [if_pos hgt]
      intro h0
      rw [h0] at hgt
      exact absurd (lt_of_le_of_lt h.nonneg hgt) (lt_irrefl _)
    · rw [if_neg hgt, if_neg hgt]
      exact h.zero
  case arg =>
    rw [scanStep_pivmax, scanStep_pivptr]
    by_cases hgt : mags.getD hi 0 > s.pivmax
    · rw [if_pos hgt, if_pos hgt]
      exact fun _ => ⟨hhi, rfl, fun i hr => lt_of_le_of_lt (h.ub i hr) hgt⟩
    · rw [if_neg hgt, if_neg hgt]
      exact fun h0 => ⟨hmono (h.arg h0).1, (h.arg h0).2⟩
  case diagSome =>
    rw [scanStep_diag]
    by_cases hd : rows.getD hi 0 = diagInd
    · rw [if_pos hd]
      intro d hdd
      cases hdd
      exact ⟨hhi, hd⟩
    · rw [if_neg hd]
      exact fun d hdd => ⟨hmono (h.diagSome d hdd).1, (h.diagSome d hdd).2⟩
  case diagNone =>
    rw [scanStep_diag]
    by_cases hd : rows.getD hi 0 = diagInd
    · rw [if_pos hd]
      exact fun hc => nomatch hc
    · rw [if_neg hd]
      intro hdd i hi'
      rcases hlast hi' with h1 | rfl
      · exact h.diagNone hdd i h1
      · exact hd
  case old =>
    rw [scanStep_oldPtr]
    by_cases hu : usepr = true ∧ rows.getD hi 0 = pivrow
    · rw [if_pos hu]
      exact .inr ⟨hu.1, hhi, hu.2⟩
    · rw [if_neg hu]
      rcases h.old with ⟨o1, o2⟩ | ⟨o1, o2, o3⟩
      · refine .inl ⟨o1, fun hus i hi' => ?_⟩
        rcases hlast hi' with h1 | rfl
        · exact o2 hus i h1
        · exact fun e => hu ⟨hus, e⟩
      · exact .inr ⟨o1, hmono o2, o3⟩

theorem scan_inv (nsupc nsupr : Nat) :
    ScanInv rows mags usepr pivrow diagInd nsupc nsupr (scan rows mags usepr pivrow diagInd nsupc nsupr) := by
  unfold scan
  rcases Nat.le_total nsupc nsupr with h | h
  · induction nsupr, h using Nat.le_induction with
    | base =>
      rw [Nat.sub_self]
      exact scanInv_init (le_refl _)
    | succ hi hle ih =>
      rw [Nat.succ_sub hle, List.range'_concat, List.foldl_append, Nat.one_mul, Nat.add_sub_cancel' hle]
      exact scanInv_step hle ih
  · rw [Nat.sub_eq_zero_of_le h]
    exact scanInv_init h

end Slu
