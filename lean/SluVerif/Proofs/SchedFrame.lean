/- one scheduler critical section as equations on the old state, for the system-level invariants; read off
`schedule_cases` -/
import SluVerif.Props.C04

namespace Slu
open Slu.Gen

/-- not used by the proofs -/
structure CfgOk (c : PanelCfg) (sh : Sh) : Prop where
  state_size : sh.state.size = c.n + 1
  ukids_size : sh.ukids.size = c.n + 1
  dad_gt : ∀ j, j < c.n → j < dadPanel c sh j ∧ dadPanel c sh j ≤ c.n

/-- how the first half picked its panel -/
inductive Picked (c : PanelCfg) (sh : Sh) (cur : Option Nat) : Option Nat → Prop
  | none : Picked c sh cur none
  | dad (q : Nat) (h1 : cur = some q) (h2 : getZ sh.ukids (dadPanel c sh q) - 1 = 0)
        (h3 : getN sh.state (dadPanel c sh q) > BUSY) : Picked c sh cur (some (dadPanel c sh q))
  | queue (j k : Nat) (h1 : getN sh.state j ≥ CANGO) (h2 : sh.head ≤ k) (h3 : k < sh.tail) (h4 : getN sh.queue k = j) :
        Picked c sh cur (some j)

/-- the parent's counter after the report of `cur` -/
def ukAfter (c : PanelCfg) (sh : Sh) (cur : Option Nat) (d : Nat) : Int :=
  match cur with
  | some q => if d = dadPanel c sh q then getZ sh.ukids d - 1 else getZ sh.ukids d
  | none => getZ sh.ukids d

/-- `Pan`: the panel leaders (any set below `n` closed under `dadPanel` that holds `cur` and the pending queue entries);
`hroot`: the report does not bring the root's counter to 0, so the parent taken directly is a panel and not `n`. -/
theorem schedule_frame (c : PanelCfg) (sh : Sh) (cur : Option Nat) (b0 : Nat) (hq : QueueOk sh)
    (hss : sh.state.size = c.n + 1) (hus : sh.ukids.size = c.n + 1)
    (Pan : Nat → Prop) (hpn : ∀ j, Pan j → j < c.n)
    (hdad : ∀ j, Pan j → j < dadPanel c sh j ∧ dadPanel c sh j ≤ c.n)
    (hdp : ∀ j, Pan j → dadPanel c sh j < c.n → Pan (dadPanel c sh j))
    (hcur : ∀ q, cur = some q → Pan q)
    (hqueue : ∀ k, sh.head ≤ k → k < sh.tail → Pan (getN sh.queue k))
    (hroot : ∀ q, cur = some q → dadPanel c sh q = c.n → getZ sh.ukids c.n - 1 ≠ 0) :
    let r := schedule c sh cur b0
    let uk' : Nat → Int := ukAfter c sh cur
    QueueOk r.1 ∧ r.1.size = sh.size ∧ r.1.state.size = c.n + 1 ∧ r.1.ukids.size = c.n + 1 ∧
    (∀ d, getZ r.1.ukids d = uk' d) ∧
    Picked c sh cur r.2.1 ∧
    (r.2.1 = none → r.1.state = sh.state ∧ r.1.tasksRemain = sh.tasksRemain) ∧
    (∀ j, r.2.1 = some j → j < c.n ∧ getN sh.state j > BUSY ∧ r.1.tasksRemain = sh.tasksRemain - 1 ∧
        ∀ p, getN r.1.state p =
          if p = j then BUSY
          else if p = dadPanel c sh j ∧ dadPanel c sh j < c.n ∧ uk' (dadPanel c sh j) = 1 then CANPIPE
          else getN sh.state p) := by
  intro r uk'
  have hr : schedule c sh cur b0 = r := rfl
  have hu : uk' = ukAfter c sh cur := rfl
  clear_value r uk'
  obtain ⟨sh1, ⟨_, e_state, e_ukids, e_tasks, _, _, _, e_size, _⟩, hq1, _, hcase⟩ := schedule_cases c sh cur b0 hq
  have huk1 : ∀ d, getZ sh1.ukids d = uk' d := by
    intro d
    rw [e_ukids, hu]
    cases hc : cur with
    | none => rfl
    | some q =>
      have hd := hdad q (hcur q hc)
      simp only [ukAfter, reported]
      rw [getZ_set _ _ _ _ (hus ▸ Nat.lt_succ_of_le hd.2)]
      by_cases e : d = dadPanel c sh q
      · rw [if_pos e, if_pos e, e]
      · rw [if_neg e, if_neg e]
  have hus1 : sh1.ukids.size = c.n + 1 := by
    rw [e_ukids]
    cases cur with
    | none => exact hus
    | some q => exact Array.size_setIfInBounds.trans hus
  -- `take`: a call that took panel `j` out of `sh1`; both hand-out cases of `schedule_cases` are instances
  suffices take : ∀ j, Pan j → getN sh.state j > BUSY → Picked c sh cur (some j) →
      r = ((takePanel c sh1 j).1, some j, (takePanel c sh1 j).2) → _ by
    rcases hcase with ⟨_, e, _⟩ | ⟨q, hc, h1, h2, _, e⟩ | ⟨j, k, _, k1, k2, k3, k4, _, _, e⟩
    · obtain rfl := hr.symm.trans e
      exact ⟨hq1, e_size, by rw [e_state]; exact hss, hus1, huk1, Picked.none, fun _ => ⟨e_state, e_tasks⟩,
        fun j h => by cases h⟩
    · -- the parent taken directly is a panel: the root's counter cannot have reached 0
      have hqP := hcur q hc
      refine take _ (hdp q hqP ?_) h2 (Picked.dad q hc h1 h2) (hr.symm.trans e)
      by_contra hge
      have hn : dadPanel c sh q = c.n := Nat.le_antisymm (hdad q hqP).2 (Nat.not_lt.1 hge)
      exact hroot q hc hn (hn ▸ h1)
    · exact take j (k3 ▸ hqueue k k1 k2) (Nat.lt_of_lt_of_le (by decide) k4) (Picked.queue j k k4 k1 k2 k3)
        (hr.symm.trans e)
  rintro j hjP hunt hpick rfl
  have hjn : j < c.n := hpn j hjP
  have hd1 : dadPanel c sh1 j = dadPanel c sh j := dadPanel_congr c sh1 sh e_size j
  have hdj := hdad j hjP
  have hne : j ≠ dadPanel c sh j := Nat.ne_of_lt hdj.1
  have hjs : j < sh1.state.size := by rw [e_state, hss]; exact Nat.lt_succ_of_lt hjn
  have hds : dadPanel c sh j < sh1.state.size := by rw [e_state, hss]; exact Nat.lt_succ_of_le hdj.2
  refine ⟨(takePanel_spec c sh1 j hq1 hjs (hd1 ▸ hne.symm) (hd1 ▸ hds)).1, by rw [takePanel_size, e_size], ?_, ?_,
    fun d => ?_, hpick, nofun, ?_⟩
  · rw [takePanel_state]
    split <;> simp only [Array.size_setIfInBounds, e_state, hss]
  · rw [takePanel_ukids]
    exact hus1
  · rw [takePanel_ukids]
    exact huk1 d
  · rintro j' ⟨⟩
    refine ⟨hjn, hunt, by rw [takePanel_tasks, e_tasks], ?_⟩
    intro p
    have hpc : pipeCond c sh1 j = true ↔ (dadPanel c sh j < c.n ∧ uk' (dadPanel c sh j) = 1) := by
      unfold pipeCond
      rw [hd1, huk1]
      simp only [Bool.and_eq_true, decide_eq_true_eq, beq_iff_eq]
    rw [getN_takePanel_state c sh1 j p hjs (hd1 ▸ hds) (hd1 ▸ hne), hd1, e_state]
    simp only [hpc]

/-- the only possible new queue entry is the parent made CANPIPE, at the old tail -/
theorem schedule_queue (c : PanelCfg) (sh : Sh) (cur : Option Nat) (b0 : Nat) (hq : QueueOk sh) :
    let r := schedule c sh cur b0
    (r.1.tail = sh.tail ∧ r.1.queue = sh.queue) ∨
    (∃ j, r.2.1 = some j ∧ r.1.tail = sh.tail + 1 ∧ r.1.queue = sh.queue.setIfInBounds sh.tail (dadPanel c sh j) ∧
          dadPanel c sh j < c.n ∧ getZ r.1.ukids (dadPanel c sh j) = 1) := by
  intro r
  obtain ⟨sh1, ⟨e_tail, _, _, _, e_queue, _, _, e_size, _⟩, _, _, hcase⟩ := schedule_cases c sh cur b0 hq
  suffices take : ∀ j, r = ((takePanel c sh1 j).1, some j, (takePanel c sh1 j).2) → _ by
    rcases hcase with ⟨_, e, _⟩ | ⟨q, _, _, _, _, e⟩ | ⟨j, k, _, _, _, _, _, _, _, e⟩
    · rw [show r = _ from e]; exact Or.inl ⟨e_tail, e_queue⟩
    · exact take _ e
    · exact take _ e
  intro j hr
  rw [hr]
  have hd1 : dadPanel c sh1 j = dadPanel c sh j := dadPanel_congr c sh1 sh e_size j
  by_cases hpipe : pipeCond c sh1 j = true
  · have hp := hpipe
    unfold pipeCond at hp
    simp only [Bool.and_eq_true, decide_eq_true_eq, beq_iff_eq, hd1] at hp
    exact Or.inr ⟨j, rfl, by rw [takePanel_tail, if_pos hpipe, e_tail],
      by rw [takePanel_queue, if_pos hpipe, e_queue, e_tail, hd1], hp.1, hp.2⟩
  · exact Or.inl ⟨by rw [takePanel_tail, if_neg hpipe, e_tail], by rw [takePanel_queue, if_neg hpipe, e_queue]⟩

/-- which way it went, and where the queue head ends up; `c.n + 1`: `pickPanel`'s fuel for `dequeue` -/
theorem schedule_head (c : PanelCfg) (sh : Sh) (cur : Option Nat) (b0 : Nat) (hq : QueueOk sh)
    (hfuel : sh.tail - sh.head ≤ c.n + 1) :
    (∃ q, cur = some q ∧ (schedule c sh cur b0).2.1 = some (dadPanel c sh q) ∧ getZ sh.ukids (dadPanel c sh q) - 1 = 0 ∧
        (schedule c sh cur b0).1.head = sh.head) ∨
    ((∀ q, cur = some q → ¬ (getZ sh.ukids (dadPanel c sh q) - 1 = 0 ∧ getN sh.state (dadPanel c sh q) > BUSY)) ∧
      (((schedule c sh cur b0).2.1 = none ∧ ∀ k, sh.head ≤ k → k < sh.tail → getN sh.state (getN sh.queue k) < CANGO) ∨
       (∃ j k, (schedule c sh cur b0).2.1 = some j ∧ sh.head ≤ k ∧ k < sh.tail ∧ getN sh.queue k = j ∧
          (schedule c sh cur b0).1.head = k + 1 ∧
          ∀ k', sh.head ≤ k' → k' < k → getN sh.state (getN sh.queue k') < CANGO))) := by
  obtain ⟨sh1, _, _, _, ⟨hd, e, hall⟩ | ⟨q, hc, h1, _, h3, e⟩ | ⟨j, k, hd, k1, k2, k3, _, k5, k6, e⟩⟩ :=
    schedule_cases c sh cur b0 hq
  · exact Or.inr ⟨fun q hq h => hd ⟨q, hq, h⟩, Or.inl ⟨by rw [e], hall hfuel⟩⟩
  · exact Or.inl ⟨q, hc, by rw [e], h1, by rw [e, takePanel_head]; exact h3⟩
  · exact Or.inr ⟨fun q hq h => hd ⟨q, hq, h⟩,
      Or.inr ⟨j, k, by rw [e], k1, k2, k3, by rw [e, takePanel_head]; exact k5, k6⟩⟩

/-- column flags, `fb_cols` and `bcol` after the critical section -/
theorem schedule_pipe (c : PanelCfg) (sh : Sh) (cur : Option Nat) (b0 : Nat) (hq : QueueOk sh) :
    ((schedule c sh cur b0).2.1 = none → (schedule c sh cur b0).1.spin = sh.spin ∧ (schedule c sh cur b0).1.fb = sh.fb) ∧
    (∀ j, (schedule c sh cur b0).2.1 = some j →
        (schedule c sh cur b0).1.spin = fillN sh.spin j (getZ sh.size j).toNat 1 ∧
        (schedule c sh cur b0).2.2 = climbDone c (schedule c sh cur b0).1 (c.n + 1) (getN sh.fb j) ∧
        (schedule c sh cur b0).1.fb = sh.fb.setIfInBounds (dadPanel c sh j) (schedule c sh cur b0).2.2) ∧
    (schedule c sh cur b0).1.typ = sh.typ := by
  obtain ⟨sh1, ⟨_, _, _, _, _, e_fb, e_spin, e_size, e_typ⟩, _, _, hcase⟩ := schedule_cases c sh cur b0 hq
  suffices take : ∀ j, schedule c sh cur b0 = ((takePanel c sh1 j).1, some j, (takePanel c sh1 j).2) → _ by
    rcases hcase with ⟨_, e, _⟩ | ⟨q, _, _, _, _, e⟩ | ⟨j, k, _, _, _, _, _, _, _, e⟩
    · rw [e]; exact ⟨fun _ => ⟨e_spin, e_fb⟩, fun j h => (by cases h), e_typ⟩
    · exact take _ e
    · exact take _ e
  intro j e
  rw [e]
  refine ⟨nofun, ?_, by rw [takePanel_typ, e_typ]⟩
  rintro j' ⟨⟩
  obtain ⟨g1, g2⟩ := takePanel_fb c sh1 j
  exact ⟨by rw [takePanel_spin, e_spin, e_size], by rw [g1, e_fb], by rw [g2, e_fb, dadPanel_congr c sh1 sh e_size]⟩

end Slu
