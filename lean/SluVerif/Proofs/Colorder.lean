/- `sp_colorder`: AC is a view of A, `perm_c' = post ∘ perm_c`, the reported etree is postordered (Liu's loop
   returns a topologically numbered forest whatever the pattern, so TreePostorder applies); in non-symmetric mode
   the postorder is a `Reorder` of the column intersection graph from the view it starts with to the one returned. -/
import SluVerif.Proofs.Relabel
import SluVerif.Proofs.LiuInst
import SluVerif.Proofs.Reorder
namespace Slu.Pre

theorem colorderEt0_false (m n : Nat) (colptr rowind permc : Array Nat) :
    colorderEt0 m n colptr rowind permc false =
      colEtree (viewBeg n colptr permc) (viewEnd n colptr permc) rowind m n := rfl

theorem colorderEt0_increasing (m n : Nat) (colptr rowind permc : Array Nat) (symm : Bool) :
    Increasing n (colorderEt0 m n colptr rowind permc symm) := by
  unfold colorderEt0
  split
  · unfold colorderSym
    exact symEtree_increasing _ _ _ _
  · exact colEtree_increasing _ _ _ _ _

section colorder
variable (m n : Nat) (colptr rowind pc : Array Nat) (symm : Bool) (et0 part0 : Array Nat)

def colorderPost : Array Nat := treePostorder n (colorderEt0 m n colptr rowind pc symm)

theorem colorder_colbeg : (colorder m n colptr rowind pc symm false et0 part0).colbeg =
    scatter n (colorderPost m n colptr rowind pc symm) (fun i => getN (viewBeg n colptr pc) i)
      (Array.replicate n 0) := rfl
theorem colorder_colend : (colorder m n colptr rowind pc symm false et0 part0).colend =
    scatter n (colorderPost m n colptr rowind pc symm) (fun i => getN (viewEnd n colptr pc) i)
      (Array.replicate n 0) := rfl
theorem colorder_permc : (colorder m n colptr rowind pc symm false et0 part0).permc =
    Array.ofFn (n := n) (fun i => getN (colorderPost m n colptr rowind pc symm) (getN pc i.1)) := rfl
theorem colorder_etree : (colorder m n colptr rowind pc symm false et0 part0).etree =
    relabelEtree n (colorderPost m n colptr rowind pc symm) (colorderEt0 m n colptr rowind pc symm) := rfl
theorem colorder_refact : colorder m n colptr rowind pc symm true et0 part0 =
    { colbeg := viewBeg n colptr pc, colend := viewEnd n colptr pc, permc := pc, etree := et0, part := part0 } := rfl

theorem colorderPost_permOn : PermOn n (colorderPost m n colptr rowind pc symm) :=
  post_permOn (colorderEt0_increasing m n colptr rowind pc symm).fctx

theorem colorderPost_root : getN (colorderPost m n colptr rowind pc symm) n = n :=
  post_root (colorderEt0_increasing m n colptr rowind pc symm).fctx

theorem colorderPost_size : (colorderPost m n colptr rowind pc symm).size = n + 1 :=
  treePostorder_size (colorderEt0_increasing m n colptr rowind pc symm).fctx

theorem colorder_etree_postordered :
    Postordered n (colorder m n colptr rowind pc symm false et0 part0).etree := by
  rw [colorder_etree]
  exact postordered_relabel (colorderEt0_increasing m n colptr rowind pc symm).fctx

end colorder

theorem viewBeg_get {n : Nat} (colptr : Array Nat) {pc : Array Nat} (hpc : PermOn n pc) {j : Nat} (hj : j < n) :
    getN (viewBeg n colptr pc) (getN pc j) = getN colptr j :=
  scatter_get hpc (by simp) hj

theorem viewEnd_get {n : Nat} (colptr : Array Nat) {pc : Array Nat} (hpc : PermOn n pc) {j : Nat} (hj : j < n) :
    getN (viewEnd n colptr pc) (getN pc j) = getN colptr (j + 1) :=
  scatter_get hpc (by simp) hj

/-- what `perm_c` and then the postorder scattered is at `perm_c'[j]`: `colbeg` with `f = colptr[·]`, `colend` with
`f = colptr[· + 1]` -/
theorem colorder_view_get {m n : Nat} {colptr rowind pc : Array Nat} {symm : Bool} {et0 part0 : Array Nat}
    {f : Nat → Nat} (hpc : PermOn n pc) {j : Nat} (hj : j < n) :
    getN (scatter n (colorderPost m n colptr rowind pc symm)
        (fun i => getN (scatter n pc f (Array.replicate n 0)) i) (Array.replicate n 0))
      (getN (colorder m n colptr rowind pc symm false et0 part0).permc j) = f j := by
  rw [colorder_permc, getN_ofFn hj,
    scatter_get (colorderPost_permOn m n colptr rowind pc symm) (by simp) (hpc.1 j hj)]
  exact scatter_get hpc (by simp) hj

theorem colorder_permc_permOn {m n : Nat} {colptr rowind pc : Array Nat} {symm : Bool} {et0 part0 : Array Nat}
    (hpc : PermOn n pc) :
    PermOn n (colorder m n colptr rowind pc symm false et0 part0).permc := by
  rw [colorder_permc]
  exact permOn_comp hpc (colorderPost_permOn m n colptr rowind pc symm)

/-- non-symmetric mode, row indices `< m`: the postorder is a `Reorder` from the graph of `(A·Pc)ᵀ(A·Pc)` (the view
`sp_colorder` starts from) to that of the view it returns -/
theorem colorder_reorder (m n : Nat) (colptr rowind pc et0 part0 : Array Nat)
    (hrows : ∀ c, c < n →
      ∀ p, p ∈ colRange (viewBeg n colptr pc) (viewEnd n colptr pc) c → getN rowind p < m) :
    ∃ g, Reorder (ataAdj (viewBeg n colptr pc) (viewEnd n colptr pc) rowind m)
      (ataAdj (colorder m n colptr rowind pc false false et0 part0).colbeg
              (colorder m n colptr rowind pc false false et0 part0).colend rowind m) n
      (getN (colorderEt0 m n colptr rowind pc false)) (getN (colorderPost m n colptr rowind pc false)) g := by
  have fc := (colorderEt0_increasing m n colptr rowind pc false).fctx
  have hpost := colorderPost_permOn m n colptr rowind pc false
  obtain ⟨g, hg1, hg2⟩ := post_inverse fc
  have hPO := postordered_relabel fc
  have hrange : ∀ c, c < n → colRange (colorder m n colptr rowind pc false false et0 part0).colbeg
      (colorder m n colptr rowind pc false false et0 part0).colend (getN (colorderPost m n colptr rowind pc false) c)
      = colRange (viewBeg n colptr pc) (viewEnd n colptr pc) c := by
    intro c hc
    unfold colRange
    rw [colorder_colbeg, colorder_colend, scatter_get hpost (by simp) hc, scatter_get hpost (by simp) hc]
  refine ⟨g, { hs := ataAdj_symm
               hs' := ataAdj_symm
               he := ?_
               qlt := hpost.1
               glt := fun x hx => (hg1 x hx).1
               gq := hg2
               qg := fun x hx => (hg1 x hx).2
               qn := colorderPost_root m n colptr rowind pc false
               topo := ?_
               graph := ?_ }⟩
  · rw [colorderEt0_false, colEtree_eq_ref _ _ _ _ _ hrows]
    exact etreeRef_isEtree n _
  · intro v hv
    have := (hPO.2.1 _ (hpost.1 v hv)).1
    unfold colorderPost at this ⊢
    rwa [relabel_get fc hv] at this
  · intro a b ha hb
    exact ataAdj_congr (hrange a ha) (hrange b hb)
      ⟨fun e => hpost.2 a b ha hb e, fun e => by rw [e]⟩

end Slu.Pre
