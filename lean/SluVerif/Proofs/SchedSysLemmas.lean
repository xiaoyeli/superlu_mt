/- `step` event by event: the state an enabled event leads to as an equation, and what the invariants need of it;
runs (`runEv`) and induction over their events -/
import SluVerif.Proofs.SchedFrame

namespace Slu
open Slu.Gen

/-- a slot outside the worker array reads as an exited worker -/
def wk (s : Sys) (i : Nat) : Worker := s.ws.getD i dfltW

theorem wk_oob (s : Sys) (i : Nat) (h : s.ws.size ≤ i) : wk s i = dfltW := by
  unfold wk; simp [Array.getD, Nat.not_lt.2 h]

theorem wk_upd {s : Sys} {sh' : Sh} {w i : Nat} {x : Worker} (hw : w < s.ws.size) :
    wk ⟨sh', s.ws.setIfInBounds w x⟩ i = if i = w then x else wk s i :=
  getD_setIfInBounds_of_lt s.ws w i x dfltW hw

theorem wk_upd_cur (s : Sys) {sh' : Sh} (w i : Nat) {ph : Phase} (hw : w < s.ws.size) :
    (wk ⟨sh', s.ws.setIfInBounds w { wk s w with phase := ph }⟩ i).cur = (wk s i).cur := by
  rw [wk_upd hw]; split
  · next e => rw [e]
  · rfl

theorem not_exited_lt_size (s : Sys) (w : Nat) (h : (wk s w).phase ≠ .exited) : w < s.ws.size := by
  by_contra hc
  exact h (by rw [wk_oob s w (by omega)]; rfl)

theorem enabled_loop (c : PanelCfg) (s : Sys) (w : Nat) : enabled c s (.loop w) = true ↔ (wk s w).phase = .head := by
  show (match (wk s w).phase with | .head => true | _ => false) = true ↔ _
  cases (wk s w).phase <;> simp

theorem enabled_sched (c : PanelCfg) (s : Sys) (w : Nat) : enabled c s (.sched w) = true ↔ (wk s w).phase = .calling := by
  show (match (wk s w).phase with | .calling => true | _ => false) = true ↔ _
  cases (wk s w).phase <;> simp

theorem enabled_finish (c : PanelCfg) (s : Sys) (w : Nat) :
    enabled c s (.finish w) = true ↔ ∃ p b, (wk s w).phase = .working p b ∧ chainReleased c s.sh p b = true := by
  show (match (wk s w).phase with | .working p b => chainReleased c s.sh p b | _ => false) = true ↔ _
  cases (wk s w).phase <;> simp

theorem step_disabled (c : PanelCfg) (s : Sys) (e : Ev) (h : enabled c s e = false) : step c s e = s := by
  unfold step; simp [h]

theorem step_loop_eq (c : PanelCfg) (s : Sys) (w : Nat) (h : enabled c s (.loop w) = true) :
    step c s (.loop w) =
      ⟨s.sh, s.ws.setIfInBounds w { wk s w with phase := if s.sh.tasksRemain > 0 then .calling else .exited }⟩ := by
  unfold step
  simp only [h]
  rfl

theorem step_finish_eq (c : PanelCfg) (s : Sys) (w p b : Nat) (hp : (wk s w).phase = .working p b)
    (hr : chainReleased c s.sh p b = true) :
    step c s (.finish w) = ⟨finishPanel s.sh p, s.ws.setIfInBounds w { wk s w with phase := .head }⟩ := by
  have h : enabled c s (.finish w) = true := (enabled_finish c s w).2 ⟨p, b, hp, hr⟩
  have hp' : (s.ws.getD w dfltW).phase = .working p b := hp
  unfold step
  simp only [h, hp']
  rfl

def schedWorker (c : PanelCfg) (s : Sys) (w : Nat) : Worker :=
  let r := schedule c s.sh (wk s w).cur 0
  let ph : Phase := match r.2.1 with | some p => .working p r.2.2 | none => .head
  let lb : Int := match r.2.1 with | some _ => (r.2.2 : Int) | none => (wk s w).lastB
  { cur := r.2.1, phase := ph, lastB := lb }

theorem step_sched_eq (c : PanelCfg) (s : Sys) (w : Nat) (h : enabled c s (.sched w) = true) :
    step c s (.sched w) = ⟨(schedule c s.sh (wk s w).cur 0).1, s.ws.setIfInBounds w (schedWorker c s w)⟩ := by
  unfold step
  simp only [h]
  rfl

/-- the loop-head read of worker `w`: only its phase changes -/
structure LoopEffect (s s' : Sys) (w : Nat) : Prop where
  head : (wk s w).phase = .head
  wsz : s'.ws.size = s.ws.size
  cur_eq : ∀ i, (wk s' i).cur = (wk s i).cur
  wk_other : ∀ i, i ≠ w → wk s' i = wk s i
  phase : (wk s' w).phase = if s.sh.tasksRemain > 0 then .calling else .exited

theorem loop_effect (c : PanelCfg) (s : Sys) (w : Nat) (h : enabled c s (.loop w) = true) :
    ∃ ws', step c s (.loop w) = ⟨s.sh, ws'⟩ ∧ LoopEffect s ⟨s.sh, ws'⟩ w := by
  have hph := (enabled_loop c s w).1 h
  have hw : w < s.ws.size := not_exited_lt_size s w (by rw [hph]; simp)
  exact ⟨_, step_loop_eq c s w h, {
    head := hph, wsz := Array.size_setIfInBounds, cur_eq := fun i => wk_upd_cur s w i hw,
    wk_other := fun i hi => by rw [wk_upd hw, if_neg hi], phase := by rw [wk_upd hw, if_pos rfl] }⟩

theorem LoopEffect.working_iff {s s' : Sys} {w : Nat} (E : LoopEffect s s' w) (i p b : Nat) :
    (wk s' i).phase = .working p b ↔ (wk s i).phase = .working p b := by
  by_cases e : i = w
  · rw [e, E.phase, E.head]; split <;> simp
  · rw [E.wk_other i e]

/-- worker `w` completes panel `p`: released, DONE, back at the loop head -/
structure FinishEffect (c : PanelCfg) (s s' : Sys) (w p b : Nat) : Prop where
  working : (wk s w).phase = .working p b
  released : chainReleased c s.sh p b = true
  sh_eq : s'.sh = finishPanel s.sh p
  wsz : s'.ws.size = s.ws.size
  cur_eq : ∀ i, (wk s' i).cur = (wk s i).cur
  wk_other : ∀ i, i ≠ w → wk s' i = wk s i
  phase : (wk s' w).phase = .head

theorem finish_effect (c : PanelCfg) (s : Sys) (w : Nat) (h : enabled c s (.finish w) = true) :
    ∃ p b ws', step c s (.finish w) = ⟨finishPanel s.sh p, ws'⟩ ∧ FinishEffect c s ⟨finishPanel s.sh p, ws'⟩ w p b := by
  obtain ⟨p, b, hph, hr⟩ := (enabled_finish c s w).1 h
  have hw : w < s.ws.size := not_exited_lt_size s w (by rw [hph]; simp)
  exact ⟨p, b, _, step_finish_eq c s w p b hph hr, {
    working := hph, released := hr, sh_eq := rfl, wsz := Array.size_setIfInBounds,
    cur_eq := fun i => wk_upd_cur s w i hw, wk_other := fun i hi => by rw [wk_upd hw, if_neg hi],
    phase := by rw [wk_upd hw, if_pos rfl] }⟩

theorem FinishEffect.working_iff {c : PanelCfg} {s s' : Sys} {w p b : Nat} (E : FinishEffect c s s' w p b) (i p' b' : Nat) :
    (wk s' i).phase = .working p' b' ↔ (i ≠ w ∧ (wk s i).phase = .working p' b') := by
  by_cases e : i = w
  · rw [e, E.phase]; simp
  · rw [E.wk_other i e]; simp [e]

def runEv (c : PanelCfg) (s : Sys) (evs : List Ev) : Sys := evs.foldl (step c) s

theorem step_cases {P : Sys → Prop} (c : PanelCfg) (s : Sys) (e : Ev) (hs : P s)
    (hl : ∀ w, enabled c s (.loop w) = true → P (step c s (.loop w)))
    (hc : ∀ w, enabled c s (.sched w) = true → P (step c s (.sched w)))
    (hf : ∀ w, enabled c s (.finish w) = true → P (step c s (.finish w))) : P (step c s e) := by
  by_cases h : enabled c s e = true
  · cases e with
    | loop w => exact hl w h
    | sched w => exact hc w h
    | finish w => exact hf w h
  · rw [step_disabled c s e (by simpa using h)]; exact hs

theorem step_size (c : PanelCfg) (s : Sys) (e : Ev) : (step c s e).ws.size = s.ws.size := by
  refine step_cases (P := fun s' => s'.ws.size = s.ws.size) c s e rfl (fun w h => ?_) (fun w h => ?_) (fun w h => ?_)
  · rw [step_loop_eq c s w h]; exact Array.size_setIfInBounds
  · rw [step_sched_eq c s w h]; exact Array.size_setIfInBounds
  · obtain ⟨p, b, hp, hr⟩ := (enabled_finish c s w).1 h
    rw [step_finish_eq c s w p b hp hr]; exact Array.size_setIfInBounds

theorem run_size (c : PanelCfg) (s : Sys) (evs : List Ev) : (runEv c s evs).ws.size = s.ws.size :=
  List.foldlRecOn (motive := fun s' => s'.ws.size = s.ws.size) evs (step c) rfl fun s' hs e _ => (step_size c s' e).trans hs

end Slu
