/-
`pxgstrf_relax_snode` (`relaxSnode`) for every postordered etree, `relax` and n: the relaxed supernodes are non-empty
column intervals inside [0, n), in increasing order and pairwise disjoint — what the cursors of `ParallelInit`'s
partition loop and of `?PresetMap` rely on.
-/
import SluVerif.Model.Sched
import SluVerif.Model.SchedInit3
namespace Slu

/-- the etree `sp_coletree`+postorder hands over: parent strictly above the child, roots have parent n -/
def PostOrd (n : Nat) (etree : Array Nat) : Prop := ∀ j, j < n → j < getN etree j ∧ getN etree j ≤ n

theorem postOrd_of_postOrdB (n : Nat) (etree : Array Nat) (h : postOrdB n etree = true) : PostOrd n etree := by
  unfold postOrdB at h
  simp only [List.all_eq_true, List.mem_range, Bool.and_eq_true, decide_eq_true_eq] at h
  exact h

theorem climb_ge (n relax : Nat) (etree desc : Array Nat) (h : PostOrd n etree) :
    ∀ fuel j, j < n → j ≤ climb n relax etree desc fuel j ∧ climb n relax etree desc fuel j < n := by
  intro fuel
  induction fuel with
  | zero => exact fun j hj => ⟨Nat.le_refl j, hj⟩
  | succ f ih =>
    intro j hj
    simp only [climb]
    split
    · have := h j hj
      have := ih (getN etree j) (by omega)
      omega
    · exact ⟨Nat.le_refl j, hj⟩

theorem nextLeaf_ge (n : Nat) (desc : Array Nat) : ∀ fuel j, j ≤ nextLeaf n desc fuel j := by
  intro fuel
  induction fuel with
  | zero => exact fun j => Nat.le_refl j
  | succ f ih =>
    intro j
    unfold nextLeaf
    split
    · exact Nat.le_of_succ_le (ih (j + 1))
    · exact Nat.le_refl j

def SnodesOk (n : Nat) (L : List (Nat × Nat)) : Prop :=
  L.Pairwise (fun a b => a.1 + a.2 ≤ b.1) ∧ ∀ a ∈ L, 1 ≤ a.2 ∧ a.1 + a.2 ≤ n

/-- invariant of the outer loop: `acc` holds the supernodes found so far, newest first; each ends at or before the
cursor `j` and is `(fcol, climb fcol − fcol + 1)` for a column `fcol < n` -/
theorem relaxLoop_spec (n relax : Nat) (etree desc : Array Nat) (h : PostOrd n etree) :
    ∀ fuel j acc, acc.reverse.Pairwise (fun a b => a.1 + a.2 ≤ b.1) →
      (∀ a ∈ acc, a.1 + a.2 ≤ j ∧ a.1 < n ∧ a.2 = climb n relax etree desc n a.1 - a.1 + 1) →
      (relaxLoop n relax etree desc fuel j acc).Pairwise (fun a b => a.1 + a.2 ≤ b.1) ∧
      ∀ a ∈ relaxLoop n relax etree desc fuel j acc,
        a.1 < n ∧ a.2 = climb n relax etree desc n a.1 - a.1 + 1 := by
  intro fuel
  induction fuel with
  | zero => exact fun j acc hp hb => ⟨hp, fun a ha => (hb a (List.mem_reverse.1 ha)).2⟩
  | succ f ih =>
    intro j acc hp hb
    unfold relaxLoop
    split
    · next hj =>
      have hc := climb_ge n relax etree desc h n j hj
      have hn := nextLeaf_ge n desc n (climb n relax etree desc n j + 1)
      refine ih _ _ ?_ fun a ha => ?_
      · rw [List.reverse_cons, List.pairwise_append]
        exact ⟨hp, List.pairwise_singleton ..,
          fun a ha b hb' => List.mem_singleton.1 hb' ▸ (hb a (List.mem_reverse.1 ha)).1⟩
      · rcases List.mem_cons.1 ha with rfl | ha
        · refine ⟨?_, hj, rfl⟩
          omega
        · have := (hb a ha).1
          exact ⟨by omega, (hb a ha).2⟩
    · exact ⟨hp, fun a ha => (hb a (List.mem_reverse.1 ha)).2⟩

theorem relaxSnode_ok (n relax : Nat) (etree : Array Nat) (h : PostOrd n etree) :
    SnodesOk n (relaxSnode n relax etree) := by
  obtain ⟨hp, he⟩ :=
    relaxLoop_spec n relax etree (descCounts n etree) h (n + 1) 0 [] List.Pairwise.nil fun _ h => nomatch h
  refine ⟨hp, fun a ha => ?_⟩
  have hc := climb_ge n relax etree (descCounts n etree) h n a.1 (he a ha).1
  have := (he a ha).2
  omega

theorem relaxSnode_disjoint (n relax : Nat) (etree : Array Nat) (h : PostOrd n etree) (a b : Nat × Nat)
    (hab : [a, b].Sublist (relaxSnode n relax etree)) (k : Nat) (ha : a.1 ≤ k ∧ k < a.1 + a.2) :
    ¬ (b.1 ≤ k ∧ k < b.1 + b.2) := by
  have hp := (relaxSnode_ok n relax etree h).1.sublist hab
  simp only [List.pairwise_cons, List.mem_singleton, forall_eq] at hp
  omega

theorem relaxSnode_fcols_increasing (n relax : Nat) (etree : Array Nat) (h : PostOrd n etree) :
    ((relaxSnode n relax etree).map Prod.fst).Pairwise (· < ·) := by
  have hk := relaxSnode_ok n relax etree h
  rw [List.pairwise_map]
  refine (List.Pairwise.and_mem.mp hk.1).imp ?_
  intro a b hab
  have := hk.2 a hab.1
  omega

/-! `climb`, `nextLeaf` and `relaxLoop` take fuel to be total.  With the fuel `relaxSnode` passes (n, n, n + 1) each loop
ends because its C exit condition became false, never because the fuel ran out: the model has exactly the runs of the C
`while` loops, and those terminate on every postordered etree. -/

theorem climb_stops (n relax : Nat) (etree desc : Array Nat) (h : PostOrd n etree) :
    ∀ fuel j, j < n → n ≤ fuel + j →
      ¬ (getN etree (climb n relax etree desc fuel j) ≠ n ∧ getN desc (getN etree (climb n relax etree desc fuel j)) < relax) := by
  intro fuel
  induction fuel with
  | zero => omega
  | succ f ih =>
    intro j hj hf
    simp only [climb]
    split
    · have := h j hj
      exact ih (getN etree j) (by omega) (by omega)
    · next hc => exact hc

theorem nextLeaf_stops (n : Nat) (desc : Array Nat) :
    ∀ fuel j, n ≤ fuel + j → ¬ (getN desc (nextLeaf n desc fuel j) ≠ 0 ∧ nextLeaf n desc fuel j < n) := by
  intro fuel
  induction fuel with
  | zero =>
    simp only [nextLeaf]
    omega
  | succ f ih =>
    intro j hf
    unfold nextLeaf
    split
    · exact ih (j + 1) (by omega)
    · next hc => exact hc

/-- any two sufficient amounts of fuel give the same list: the outer loop ends by `j ≥ n` -/
theorem relaxLoop_fuel_irrelevant (n relax : Nat) (etree desc : Array Nat) (h : PostOrd n etree) :
    ∀ f1 f2 j acc, n + 1 ≤ f1 + j → n + 1 ≤ f2 + j →
      relaxLoop n relax etree desc f1 j acc = relaxLoop n relax etree desc f2 j acc := by
  intro f1
  induction f1 with
  | zero =>
    intro f2 j acc h1 h2
    cases f2 with
    | zero => rfl
    | succ f2 =>
      simp only [relaxLoop]
      rw [if_neg (by omega)]
  | succ f1 ih =>
    intro f2 j acc h1 h2
    cases f2 with
    | zero =>
      simp only [relaxLoop]
      rw [if_neg (by omega)]
    | succ f2 =>
      simp only [relaxLoop]
      split
      · rename_i hj
        have hc := climb_ge n relax etree desc h n j hj
        have hn := nextLeaf_ge n desc n (climb n relax etree desc n j + 1)
        exact ih f2 _ _ (by omega) (by omega)
      · rfl

theorem relaxSnode_fuel_irrelevant (n relax : Nat) (etree : Array Nat) (h : PostOrd n etree) (extra : Nat) :
    relaxLoop n relax etree (descCounts n etree) (n + 1 + extra) 0 [] = relaxSnode n relax etree := by
  unfold relaxSnode
  exact relaxLoop_fuel_irrelevant n relax etree _ h _ _ 0 [] (by omega) (by omega)

/-- maximality (the exit condition of the climbing `while` of pxgstrf_relax_snode.c): the top column of a relaxed
supernode is a root or its parent has at least `relax` descendants -/
theorem relaxSnode_top_maximal (n relax : Nat) (etree : Array Nat) (h : PostOrd n etree) (a : Nat × Nat)
    (ha : a ∈ relaxSnode n relax etree) :
    let top := a.1 + a.2 - 1
    top < n ∧ ¬ (getN etree top ≠ n ∧ getN (descCounts n etree) (getN etree top) < relax) := by
  have he :=
    (relaxLoop_spec n relax etree (descCounts n etree) h (n + 1) 0 [] List.Pairwise.nil fun _ h => nomatch h).2 a ha
  have hc := climb_ge n relax etree (descCounts n etree) h n a.1 he.1
  have ht : a.1 + a.2 - 1 = climb n relax etree (descCounts n etree) n a.1 := by omega
  simp only [ht]
  exact ⟨hc.2, climb_stops n relax etree (descCounts n etree) h n a.1 he.1 (by omega)⟩

/-- the form the driver's per-configuration evaluation discharges -/
theorem relaxSnode_ok_of_check (c : PanelCfg) (h : postOrdB c.n c.etree = true) :
    SnodesOk c.n (relaxSnode c.n c.relax c.etree) :=
  relaxSnode_ok c.n c.relax c.etree (postOrd_of_postOrdB c.n c.etree h)

-- non-vacuity: a 7-column postordered forest with three leaves (0, 1, 3)
example : PostOrd 7 #[2, 2, 6, 4, 5, 6, 7] := by
  unfold PostOrd
  decide
example : relaxSnode 7 2 #[2, 2, 6, 4, 5, 6, 7] = [(0, 1), (1, 1), (3, 2)] := by decide

end Slu
