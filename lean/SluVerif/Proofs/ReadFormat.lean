/- `?ParseIntFormat` / `?ParseFloatFormat` on the text of a descriptor. -/
import SluVerif.Proofs.ReadBasic
namespace Slu.Read

theorem isDig_not_I {c : Char} (h : isDig c = true) : isI c = false := isDig_elim (isI · = false) (by decide) h
theorem isDig_not_EDF {c : Char} (h : isDig c = true) : isEDF c = false :=
  isDig_elim (isEDF · = false) (by decide +kernel) h
theorem isDig_not_P {c : Char} (h : isDig c = true) : isP c = false := isDig_elim (isP · = false) (by decide) h
theorem isDig_not_dotClose {c : Char} (h : isDig c = true) : isDotOrClose c = false :=
  isDig_elim (isDotOrClose · = false) (by decide) h

theorem isI_not_dig {c : Char} (h : isI c = true) : isDig c = false := not_isDig_of isDig_not_I h
theorem isEDF_not_dig {c : Char} (h : isEDF c = true) : isDig c = false := not_isDig_of isDig_not_EDF h
theorem isP_not_dig {c : Char} (h : isP c = true) : isDig c = false := not_isDig_of isDig_not_P h
theorem isDotOrClose_not_dig {c : Char} (h : isDotOrClose c = true) : isDig c = false :=
  not_isDig_of isDig_not_dotClose h

theorem isP_not_EDF {c : Char} (h : isP c = true) : isEDF c = false := by
  simp only [isP, Bool.or_eq_true, beq_iff_eq] at h
  rcases h with rfl | rfl <;> decide

theorem parseIntFormat_text (d : IntDesc) (tail : Str)
    (hpre : ∀ x ∈ d.pre, (x == '(') = false) (hI : isI d.letter = true)
    (hn : d.n < 2147483648) (hw : d.w < 2147483648) :
    parseIntFormat (d.text ++ tail) = some ((d.n : Int), (d.w : Int)) := by
  unfold parseIntFormat IntDesc.text
  simp only [List.append_assoc, List.cons_append]
  rw [dropThrough_append hpre (by decide)]
  simp only
  rw [atoiC_natDigits hn (noDigHead_cons (isI_not_dig hI)),
    dropUntil_append (fun x hx => isDig_not_I (natDigits_allDig _ x hx)) hI]
  simp only [List.drop_succ_cons, List.drop_zero]
  rw [atoiC_natDigits hw (noDigHead_cons (by decide))]

theorem pfLoop_digits (num : Int) {ds : Str} (hd : AllDig ds) (rest : Str) :
    pfLoop num (ds ++ rest) = pfLoop num rest := by
  induction ds with
  | nil => rfl
  | cons c cs ih =>
    simp only [List.cons_append, pfLoop, isDig_not_EDF hd.head, isDig_not_P hd.head]
    exact ih hd.tail

theorem pfLoop_stop (num : Int) {c : Char} (hc : isEDF c = true) (rest : Str) :
    pfLoop num (c :: rest) = some (num, c :: rest) := by
  simp [pfLoop, hc]

theorem pfLoop_P (num : Int) {p : Char} (hp : isP p = true) {cs : Str} {n : Int} (h : atoiC cs = some n) :
    pfLoop num (p :: cs) = pfLoop n cs := by
  simp [pfLoop, isP_not_EDF hp, hp, h]

/-- No `(` before the descriptor's own; count and width in `int` range (`atoi`); the width ends at the first `.` or
`)`, the head of `rest`; a scale factor is `kP`.  The `A20` field width is a separate hypothesis where needed. -/
def RealDesc.WF (d : RealDesc) : Prop :=
  (∀ x ∈ d.pre, (x == '(') = false) ∧ isEDF d.letter = true ∧ d.n < 2147483648 ∧ d.w < 2147483648 ∧
  (∃ c tl, d.rest = c :: tl ∧ isDotOrClose c = true) ∧
  (∀ k p, d.scale = some (k, p) → isP p = true ∧ k < 2147483648)

instance RealDesc.instDecidableWF (d : RealDesc) : Decidable d.WF :=
  decidable_of_iff ((∀ x ∈ d.pre, (x == '(') = false) ∧ isEDF d.letter = true ∧ d.n < 2147483648 ∧
      d.w < 2147483648 ∧
      (match d.rest with | c :: _ => isDotOrClose c | [] => false) = true ∧
      (∀ a, d.scale = some a → isP a.2 = true ∧ a.1 < 2147483648)) <| by
    unfold RealDesc.WF
    refine and_congr_right fun _ => and_congr_right fun _ => and_congr_right fun _ => and_congr_right fun _ =>
      and_congr ?_ ?_
    · cases d.rest with
      | nil => simp
      | cons c tl => simp
    · exact ⟨fun h k p hs => h (k, p) hs, fun h a hs => h a.1 a.2 hs⟩

theorem parseFloatFormat_text (d : RealDesc) (tail : Str) (h : d.WF) :
    parseFloatFormat (d.text ++ tail) = some ((d.n : Int), (d.w : Int)) := by
  obtain ⟨hpre, hL, hn, hw, ⟨c, tl, hrest, hc⟩, hs⟩ := h
  -- `u`: the text from the edit letter on
  generalize hu : d.letter :: (natDigits d.w ++ c :: (tl ++ tail)) = u
  have hcount : atoiC (natDigits d.n ++ u) = some (d.n : Int) :=
    hu ▸ atoiC_natDigits hn (noDigHead_cons (isEDF_not_dig hL))
  have hloop : ∀ num0 : Int, pfLoop num0 (natDigits d.n ++ u) = some (num0, u) := fun num0 => by
    rw [pfLoop_digits num0 (natDigits_allDig _), ← hu, pfLoop_stop num0 hL]
  have hsize : atoiC (natDigits d.w) = some (d.w : Int) := by
    simpa using atoiC_natDigits hw (rest := []) trivial
  unfold parseFloatFormat RealDesc.text
  simp only [List.append_assoc, List.cons_append]
  rw [dropThrough_append hpre (by decide), hrest]
  simp only [List.cons_append, hu]
  -- `t`: the text behind the parenthesis.  The count read first is the scale factor if there is one; the loop then
  -- reads the count again behind the `P`
  generalize ht : (_ : Str) ++ (natDigits d.n ++ u) = t
  obtain ⟨num0, h0, hl⟩ : ∃ num0, atoiC t = some num0 ∧ pfLoop num0 t = some ((d.n : Int), u) := by
    subst ht
    cases hd : d.scale with
    | none => exact ⟨d.n, hcount, hloop _⟩
    | some kp =>
      obtain ⟨hp, hk⟩ := hs kp.1 kp.2 hd
      refine ⟨kp.1, ?_, ?_⟩
      · simpa using atoiC_natDigits hk (noDigHead_cons (isP_not_dig hp))
      · simp only [List.append_assoc, List.cons_append, List.nil_append]
        rw [pfLoop_digits _ (natDigits_allDig _), pfLoop_P _ hp hcount, hloop]
  simp only [h0, hl]
  subst hu
  rw [List.drop_succ_cons, List.drop_zero,
    takeUntil_append (fun x hx => isDig_not_dotClose (natDigits_allDig _ x hx)) hc]
  simp only [hsize]

end Slu.Read
