/- one supernode of each sweep, in terms of the column block it denotes: a dense triangular block on the diagonal and
   scatter lists off it (`BlockCols`).  A step is the dense kernel on the block plus the off-block updates (N) or dot
   products (T); `of_block` / `of_scatter` turn that into the `StepN` / `StepT` the sweeps need. -/
import SluVerif.Proofs.BlasTrsvKern
import SluVerif.Proofs.BlasTrsvMat
namespace Slu.Blas
open Finset

theorem sum_split_block (n f e : Nat) (F : Nat → Rat) (hen : e ≤ n) :
    ∑ j ∈ range n, F j =
      ∑ k ∈ range (e - f), F (f + k) + ∑ j ∈ range n, (if f ≤ j ∧ j < e then 0 else F j) := by
  rw [← sum_row_window F f e n hen, ← sum_add_distrib]
  refine sum_congr rfl fun j _ => ?_
  split_ifs
  · rw [add_zero]
  · rw [zero_add]

theorem sum_out_scatter (n f e : Nat) (p : Nat → Nat) (w g : Nat → Rat) (len : Nat)
    (hp : ∀ t < len, p t < n ∧ (p t < f ∨ e ≤ p t)) :
    ∑ j ∈ range n, (if f ≤ j ∧ j < e then 0 else (∑ t ∈ range len, if p t = j then w t else 0) * g j)
      = ∑ t ∈ range len, w t * g (p t) := by
  simp only [sum_mul, ite_mul, zero_mul]
  have hcol : ∀ j ∈ range n, (if f ≤ j ∧ j < e then 0 else ∑ t ∈ range len, if p t = j then w t * g j else 0)
      = ∑ t ∈ range len, if p t = j then w t * g j else 0 := by
    intro j _
    split_ifs with h
    · exact (sum_eq_zero fun t ht => if_neg (by have := hp t (mem_range.mp ht); omega)).symm
    · rfl
  rw [sum_congr rfl hcol, sum_comm]
  refine sum_congr rfl fun t ht => ?_
  rw [sum_ite_eq, if_pos (mem_range.mpr (hp t (mem_range.mp ht)).1)]

theorem sum_scatter_rows (p : Nat → Nat) (w : Nat → Nat → Rat) (g : Nat → Rat) (len nc q : Nat) :
    ∑ k ∈ range nc, (∑ t ∈ range len, if p t = q then w t k else 0) * g k
      = ∑ t ∈ range len, if p t = q then ∑ k ∈ range nc, w t k * g k else 0 := by
  simp only [sum_mul, ite_mul, zero_mul]
  rw [sum_comm]
  simp only [sum_ite_irrel, sum_const_zero]

/-- columns `f … f+nc-1` of `M`: the block `Mb` on the diagonal, `C q k` in row `q` off it -/
structure BlockCols (f nc : Nat) (M Mb C : Nat → Nat → Rat) : Prop where
  diag : ∀ i < nc, ∀ k < nc, M (f + i) (f + k) = Mb i k
  off : ∀ q, (q < f ∨ f + nc ≤ q) → ∀ k < nc, M q (f + k) = C q k

theorem StepN.of_block {n f nc : Nat} {M Mb C : Nat → Nat → Rat} (hM : BlockCols f nc M Mb C) {ξ ξ' : Nat → Rat}
    (c1 : ∀ i < nc, ∑ k ∈ range nc, Mb i k * ξ' (f + k) = ξ (f + i))
    (c2 : ∀ q < n, (q < f ∨ f + nc ≤ q) → ξ' q = ξ q - ∑ k ∈ range nc, C q k * ξ' (f + k)) :
    StepN n M (Ico f (f + nc)) ξ ξ' := by
  refine ⟨fun i hi => ?_, fun q hq hqB => ?_⟩
  · obtain ⟨i, rfl⟩ : ∃ i', i = f + i' := ⟨i - f, by have := mem_Ico.mp hi; omega⟩
    have hi' : i < nc := by have := mem_Ico.mp hi; omega
    rw [sum_Ico_eq_sum_range, Nat.add_sub_cancel_left, ← c1 i hi']
    exact sum_congr rfl fun k hk => by rw [hM.diag i hi' k (mem_range.mp hk)]
  · have hq' : q < f ∨ f + nc ≤ q := by
      by_contra hc; exact hqB (mem_Ico.mpr (by omega))
    rw [c2 q hq hq', sum_Ico_eq_sum_range, Nat.add_sub_cancel_left]
    exact congrArg _ (sum_congr rfl fun k hk => by rw [hM.off q hq' k (mem_range.mp hk)])

theorem StepT.of_block {n f nc : Nat} {M Mb C : Nat → Nat → Rat} (hM : BlockCols f nc M Mb C) (hn : f + nc ≤ n)
    {ξ ξ' : Nat → Rat}
    (c1 : ∀ i < nc, ∑ k ∈ range nc, Mb k i * ξ' (f + k)
        = ξ (f + i) - ∑ q ∈ range n, if f ≤ q ∧ q < f + nc then 0 else C q i * ξ q)
    (c2 : ∀ q < n, (q < f ∨ f + nc ≤ q) → ξ' q = ξ q) :
    StepT n (fun i j => M j i) (Ico f (f + nc)) ξ ξ' := by
  refine ⟨fun i hi => ?_, fun q hq hqB => c2 q hq (by by_contra hc; exact hqB (mem_Ico.mpr (by omega)))⟩
  obtain ⟨i, rfl⟩ : ∃ i', i = f + i' := ⟨i - f, by have := mem_Ico.mp hi; omega⟩
  have hi' : i < nc := by have := mem_Ico.mp hi; omega
  beta_reduce
  rw [sum_split_block n f (f + nc) _ hn, Nat.add_sub_cancel_left,
    sum_congr rfl fun k hk => by rw [hM.diag k (mem_range.mp hk) i hi'], c1 i hi']
  rw [sub_add_eq_add_sub, eq_comm, add_sub_assoc, add_eq_left, sub_eq_zero]
  refine sum_congr rfl fun q hq => ?_
  by_cases hb : f ≤ q ∧ q < f + nc
  · rw [if_pos hb, if_pos hb]
  · rw [if_neg hb, if_neg hb, hM.off q (by omega) i hi', c2 q (mem_range.mp hq) (by omega)]

theorem MLs_blockCols {n : Nat} (one : Int) {s : Snode} (h : SnOk n s) :
    BlockCols s.f (nsupc s) (MLs one s) (MbL (sA one s))
      (fun q k => ∑ t ∈ range (nsupr s - nsupc s),
        if srow s (nsupc s + t) = q then sA one s (nsupc s + t) k else 0) := by
  refine ⟨fun i hi k hk => ?_, fun q hq k hk => ?_⟩
  · unfold MLs MbL
    rw [Nat.add_sub_cancel_left, snL_own h i k hi]
    rcases Nat.lt_trichotomy k i with hlt | rfl | hgt
    · rw [if_neg (by omega), if_pos hlt, if_pos hlt]
    · rw [if_pos rfl, if_neg (Nat.lt_irrefl _), if_pos rfl]
    · rw [if_neg (by omega), if_neg (by omega), if_neg (by omega), if_neg (by omega)]
  · unfold MLs
    have := h.nc_eq
    rw [if_neg (by omega), Nat.add_sub_cancel_left, snL_out h q k (by omega) hk]

theorem MUs_blockCols {n : Nat} (one : Int) (U : NCP) {s : Snode} (h : SnOk n s)
    (hU : ∀ k < nsupc s, UcolOk s.f (U.cols.getD (s.f + k) default)) :
    BlockCols s.f (nsupc s) (MUs one U s) (MbU (sA one s))
      (fun q k => ucolD one (U.cols.getD (s.f + k) default) q) := by
  refine ⟨fun i hi k hk => ?_, fun q hq k hk => ?_⟩
  · unfold MUs MbU
    rw [Nat.add_sub_cancel_left, snU_own h i k hi, ucolD_ge (hU k hk) (s.f + i) (by omega), add_zero]
  · unfold MUs
    have := h.nc_eq
    rw [Nat.add_sub_cancel_left, snU_out h q k (by omega) hk, zero_add]

/-- off-block rows as one scatter list (`p t`, weights `w t k`): `x1` is the dense solve on the block, then row `p t`
loses `g t`, its dot product with the solved block -/
theorem StepN.of_scatter {n f nc len : Nat} {M Mb : Nat → Nat → Rat} {p : Nat → Nat} {w : Nat → Nat → Rat}
    (hM : BlockCols f nc M Mb fun q k => ∑ t ∈ range len, if p t = q then w t k else 0)
    (hp : ∀ t < len, p t < f ∨ f + nc ≤ p t) {x x1 y : Array Rat} {g : Nat → Rat}
    (hx1 : Frame f nc x x1 ∧ ∀ i < nc, ∑ k ∈ range nc, Mb i k * rd x1 (f + k) = rd x (f + i))
    (hg : ∀ t < len, g t = ∑ k ∈ range nc, w t k * rd x1 (f + k))
    (hy : y.size = x1.size ∧ ∀ q, rd y q = rd x1 q - ∑ t ∈ range len, if p t = q then g t else 0) :
    y.size = x.size ∧ StepN n M (Ico f (f + nc)) (rd x) (rd y) := by
  obtain ⟨⟨t1, t2⟩, t3⟩ := hx1
  obtain ⟨s1, s2⟩ := hy
  have hblk : ∀ k < nc, rd y (f + k) = rd x1 (f + k) := by
    intro k hk
    rw [s2 (f + k), sum_eq_zero, sub_zero]
    intro t ht
    have := hp t (mem_range.mp ht)
    rw [if_neg (by omega)]
  refine ⟨s1.trans t1, StepN.of_block hM (fun i hi => ?_) (fun q _ hq => ?_)⟩
  · rw [← t3 i hi]
    exact sum_congr rfl fun k hk => by rw [hblk k (mem_range.mp hk)]
  · rw [s2 q, t2 q hq, sum_scatter_rows]
    refine congrArg _ (sum_congr rfl fun t ht => ?_)
    rw [hg t (mem_range.mp ht)]
    exact if_congr Iff.rfl (sum_congr rfl fun k hk => by rw [hblk k (mem_range.mp hk)]) rfl

theorem stepLN_spec {n : Nat} (one : Int) {s : Snode} (h : SnOk n s) (x : Array Rat) (hx : x.size = n) :
    (stepLN one s x).size = x.size ∧ StepN n (MLs one s) (Ico s.f s.e) (rd x) (rd (stepLN one s x)) := by
  have hnc := h.nc_eq
  have hen := h.e_le
  have hout : ∀ t < nsupr s - nsupc s, srow s (nsupc s + t) < s.f ∨ s.f + nsupc s ≤ srow s (nsupc s + t) :=
    fun t ht => by
      have := (h.out (nsupc s + t) (by omega) (by omega)).1
      omega
  rw [← hnc]
  unfold stepLN
  by_cases h1 : nsupc s = 1
  · rw [if_pos h1]
    refine StepN.of_scatter (MLs_blockCols one h) hout (x1 := x) (g := fun t => rd x s.f * sA one s (1 + t) 0)
      ⟨⟨rfl, fun _ _ => rfl⟩, fun i hi => ?_⟩ (fun t _ => ?_) ?_
    · obtain rfl : i = 0 := by omega
      rw [h1, sum_range_one]
      unfold MbL
      rw [if_neg (by omega), if_pos rfl, one_mul]
    · rw [h1, sum_range_one, Nat.add_zero, mul_comm]
    · have hrow : ∀ t < nsupr s - 1, srow s (1 + t) < x.size ∧ srow s (1 + t) ≠ s.f := by
        intro t ht
        have := h.out (1 + t) (by omega) (by omega)
        omega
      rw [h1]
      exact rd_foldl_axpy (fun t => srow s (1 + t)) (fun t => sA one s (1 + t) 0) s.f x (nsupr s - 1)
        (fun t ht => (hrow t ht).1) (fun t ht => (hrow t ht).2)
  · rw [if_neg h1]
    have t := trsvLNU_spec (sA one s) (nsupc s) s.f x (by omega)
    refine StepN.of_scatter (MLs_blockCols one h) hout t
      (gemvWork_spec (sA one s) (nsupr s - nsupc s) (nsupc s) s.f _).2 ?_
    refine rd_foldl_sub (fun i => srow s (nsupc s + i)) _ _ (nsupr s - nsupc s) fun i hi => ?_
    have := (h.out (nsupc s + i) (by omega) (by omega)).2
    rw [t.1.1]
    omega

/-- the single-column branch is the general one on one column -/
theorem stepUN_eq (one : Int) (U : NCP) (s : Snode) (x : Array Rat) :
    stepUN one U s x =
      (List.range (nsupc s)).foldl (fun x jj => uAxpy one (U.cols.getD (s.f + jj) default) (s.f + jj) x)
        (trsvUNN (sA one s) (nsupc s) s.f x) := by
  unfold stepUN
  by_cases h1 : nsupc s = 1
  · rw [h1]
    -- one division, no update (`range 0`), one `uAxpy`
    simp [trsvUNN]
  · rw [if_neg h1]

theorem ucolD_mul (one : Int) (c : UCol) (q : Nat) (v : Rat) :
    (∑ t ∈ range c.rows.size, if urow c t = q then v * uval one c t else 0) = v * ucolD one c q := by
  simp only [ucolD, mul_sum, mul_ite, mul_zero]

theorem stepUN_spec {n : Nat} (one : Int) (U : NCP) {s : Snode} (h : SnOk n s) (x : Array Rat) (hx : x.size = n)
    (hU : ∀ k < nsupc s, UcolOk s.f (U.cols.getD (s.f + k) default))
    (hd : ∀ k < nsupc s, sA one s k k ≠ 0) :
    (stepUN one U s x).size = x.size ∧ StepN n (MUs one U s) (Ico s.f s.e) (rd x) (rd (stepUN one U s x)) := by
  have hnc := h.nc_eq
  have hen := h.e_le
  rw [stepUN_eq, ← hnc]
  obtain ⟨⟨t1, t2⟩, t3⟩ := trsvUNN_spec (sA one s) (nsupc s) s.f x (by omega) hd
  generalize trsvUNN (sA one s) (nsupc s) s.f x = x1 at t1 t2 t3 ⊢
  -- the block's U columns have no entry in the block's rows
  have hz : ∀ m ≤ nsupc s, ∀ k, ∑ k' ∈ range m,
      ucolD one (U.cols.getD (s.f + k') default) (s.f + k) * rd x1 (s.f + k') = 0 :=
    fun m hm k => sum_eq_zero fun k' hk' => by
      rw [ucolD_ge (hU k' (by have := mem_range.mp hk'; omega)) (s.f + k) (by omega), zero_mul]
  obtain ⟨k1, k2⟩ := foldl_range_inv (fun x jj => uAxpy one (U.cols.getD (s.f + jj) default) (s.f + jj) x)
    (fun jj (xj : Array Rat) => xj.size = x.size ∧ ∀ q, rd xj q = rd x1 q
        - ∑ k ∈ range jj, ucolD one (U.cols.getD (s.f + k) default) q * rd x1 (s.f + k))
    x1 (nsupc s) ⟨t1, fun q => by simp⟩
    (fun jj xj hjj ⟨p1, p2⟩ => by
      have hrow : ∀ t < (U.cols.getD (s.f + jj) default).rows.size,
          urow (U.cols.getD (s.f + jj) default) t < xj.size ∧
          urow (U.cols.getD (s.f + jj) default) t ≠ s.f + jj := by
        intro t ht
        have := hU jj hjj t ht
        omega
      obtain ⟨s1, s2⟩ := rd_foldl_axpy (fun t => urow (U.cols.getD (s.f + jj) default) t)
        (fun t => uval one (U.cols.getD (s.f + jj) default) t) (s.f + jj) xj _
        (fun t ht => (hrow t ht).1) (fun t ht => (hrow t ht).2)
      unfold uAxpy
      refine ⟨by rw [s1, p1], fun q => ?_⟩
      rw [s2 q, ucolD_mul, p2 (s.f + jj), hz jj (by omega), p2 q, sum_range_succ]
      ring)
  generalize (List.range (nsupc s)).foldl _ x1 = y at k1 k2 ⊢
  have hblk : ∀ k, rd y (s.f + k) = rd x1 (s.f + k) := fun k => by rw [k2, hz _ (le_refl _), sub_zero]
  refine ⟨k1, StepN.of_block (MUs_blockCols one U h hU) (fun i hi => ?_) (fun q _ hq => ?_)⟩
  · rw [← t3 i hi]
    simp only [hblk]
  · rw [k2 q, t2 q hq]
    simp only [hblk]

/-- off-block rows as scatter lists (column `k`: positions `p k t`, weights `w k t`): the block cells lose their dot
products (`x1`), then the transposed dense solve (`y`).  `hy` takes the size of `x1` as a premise: it is known only
inside, from `rd_dotsLoop`. -/
theorem StepT.of_scatter {n f nc : Nat} {M Mb : Nat → Nat → Rat} {len : Nat → Nat} {p : Nat → Nat → Nat}
    {w : Nat → Nat → Rat}
    (hM : BlockCols f nc M Mb fun q k => ∑ t ∈ range (len k), if p k t = q then w k t else 0)
    (hp : ∀ k < nc, ∀ t < len k, p k t < n ∧ (p k t < f ∨ f + nc ≤ p k t)) (hn : f + nc ≤ n)
    {x x1 y : Array Rat} (hx : x.size = n)
    (hx1 : x1 = dotsLoop f nc len p w x)
    (hy : f + nc ≤ x1.size →
      Frame f nc x1 y ∧ ∀ i < nc, ∑ k ∈ range nc, Mb k i * rd y (f + k) = rd x1 (f + i)) :
    y.size = x.size ∧ StepT n (fun i j => M j i) (Ico f (f + nc)) (rd x) (rd y) := by
  obtain ⟨k1, k2⟩ := rd_dotsLoop f nc len p w x (by omega) fun k hk t ht => (hp k hk t ht).2
  rw [← hx1] at k1 k2
  obtain ⟨⟨t1, t2⟩, t3⟩ := hy (by omega)
  refine ⟨t1.trans k1, StepT.of_block hM hn (fun i hi => ?_) (fun q _ hq => ?_)⟩
  · rw [t3 i hi, k2, if_pos (by omega), Nat.add_sub_cancel_left,
      sum_out_scatter n f (f + nc) (p i) (w i) (rd x) (len i) (hp i hi)]
    exact congrArg _ (sum_congr rfl fun t _ => mul_comm _ _)
  · rw [t2 q hq, k2 q, if_neg (by omega)]

/-- ?trsv on one column is the identity -/
theorem stepLT_eq (one : Int) (s : Snode) (x : Array Rat) (hnc : 1 ≤ nsupc s) :
    stepLT one s x = trsvLTU (sA one s) (nsupc s) s.f
      ((List.range (nsupc s)).foldl (fun x jj =>
        (List.range (nsupr s - nsupc s)).foldl (fun x t =>
          wr x (s.f + jj) (rd x (s.f + jj) - rd x (srow s (nsupc s + t)) * sA one s (nsupc s + t) jj)) x) x) := by
  unfold stepLT
  by_cases h1 : nsupc s > 1
  · simp only [h1, if_true]
  · have h1' : nsupc s = 1 := by omega
    rw [h1']
    -- empty dot product: the kernel stores `x[f]` back
    simp [trsvLTU, wr_rd_self]

theorem stepLT_spec {n : Nat} (one : Int) {s : Snode} (h : SnOk n s) (x : Array Rat) (hx : x.size = n) :
    (stepLT one s x).size = x.size ∧
    StepT n (fun i j => MLs one s j i) (Ico s.f s.e) (rd x) (rd (stepLT one s x)) := by
  have hnc := h.nc_eq
  have hfe := h.f_lt_e
  have hen := h.e_le
  rw [stepLT_eq one s x (by omega), ← hnc]
  exact StepT.of_scatter (MLs_blockCols one h)
    (hp := fun _ _ t ht => by have := h.out (nsupc s + t) (by omega) (by omega); omega) (hn := by omega)
    hx (hx1 := rfl) (hy := trsvLTU_spec (sA one s) (nsupc s) s.f _)

/-- `?trsv("U","T","N")` on one column divides by the diagonal -/
theorem stepUT_eq (one : Int) (U : NCP) (s : Snode) (x : Array Rat) :
    stepUT one U s x = trsvUTN (sA one s) (nsupc s) s.f
      ((List.range (nsupc s)).foldl (fun x jj => (List.range (U.cols.getD (s.f + jj) default).rows.size).foldl
        (fun x t => wr x (s.f + jj) (rd x (s.f + jj)
          - rd x (urow (U.cols.getD (s.f + jj) default) t) * uval one (U.cols.getD (s.f + jj) default) t)) x) x) := by
  unfold stepUT uDot
  by_cases h1 : nsupc s = 1
  · simp only [h1]
    -- empty dot product, then the division
    simp [trsvUTN]
  · simp only [h1, if_false]

theorem stepUT_spec {n : Nat} (one : Int) (U : NCP) {s : Snode} (h : SnOk n s) (x : Array Rat) (hx : x.size = n)
    (hU : ∀ k < nsupc s, UcolOk s.f (U.cols.getD (s.f + k) default))
    (hd : ∀ k < nsupc s, sA one s k k ≠ 0) :
    (stepUT one U s x).size = x.size ∧
    StepT n (fun i j => MUs one U s j i) (Ico s.f s.e) (rd x) (rd (stepUT one U s x)) := by
  have hnc := h.nc_eq
  have hen := h.e_le
  rw [stepUT_eq, ← hnc]
  exact StepT.of_scatter (MUs_blockCols one U h hU)
    (hp := fun k hk t ht => by have := hU k hk t ht; omega) (hn := by omega)
    hx (hx1 := rfl) (hy := fun hs => trsvUTN_spec (sA one s) (nsupc s) s.f _ hs hd)

end Slu.Blas
