/- symbolic elimination (`fill`), the elimination tree it defines, and the classical facts: a fill edge (k,j)
   makes k an ancestor of j; row k of the filled graph is a union of tree paths from original entries of row k. -/
import SluVerif.Proofs.Forest
namespace Slu.Pre

/-- graph after eliminating the vertices `0..k-1`: the model's `elimStep` / `fillTab` as a function -/
def fill (G : Nat → Nat → Bool) : Nat → Nat → Nat → Bool
  | 0, a, b => G a b
  | j + 1, a, b => fill G j a b ||
      (decide (j < a) && decide (j < b) && decide (a ≠ b) && fill G j a j && fill G j j b)

theorem fill_succ_iff (G : Nat → Nat → Bool) (k a b : Nat) :
    fill G (k + 1) a b = true ↔
      (fill G k a b = true ∨ (k < a ∧ k < b ∧ a ≠ b ∧ fill G k a k = true ∧ fill G k k b = true)) := by
  simp only [fill, Bool.or_eq_true, Bool.and_eq_true, decide_eq_true_eq, and_assoc]

theorem fill_mono {G : Nat → Nat → Bool} {a b : Nat} :
    ∀ {k k' : Nat}, k ≤ k' → fill G k a b = true → fill G k' a b = true := by
  intro k k' h
  induction h with
  | refl => exact id
  | step _ ih =>
      intro hf
      exact (fill_succ_iff G _ a b).2 (Or.inl (ih hf))

/-- eliminating a vertex `≥ a` or `≥ b` adds no edge `(a, b)` -/
theorem fill_of_later {G : Nat → Nat → Bool} {a b k k' : Nat} (hk : a ≤ k ∨ b ≤ k) (hkk : k ≤ k')
    (h : fill G k' a b = true) : fill G k a b = true := by
  induction hkk with
  | refl => exact h
  | @step m hm ih =>
      rcases (fill_succ_iff G m a b).1 h with h' | h'
      · exact ih h'
      · have : k ≤ m := hm
        omega

theorem fill_symm {G : Nat → Nat → Bool} (hs : ∀ a b, G a b = G b a) : ∀ k a b, fill G k a b = fill G k b a
  | 0, a, b => hs a b
  | k + 1, a, b => by
      rw [Bool.eq_iff_iff, fill_succ_iff, fill_succ_iff, fill_symm hs k a b, fill_symm hs k a k, fill_symm hs k k b]
      have swap : ∀ {a b : Nat} {p q : Prop},
          k < a ∧ k < b ∧ a ≠ b ∧ p ∧ q → k < b ∧ k < a ∧ b ≠ a ∧ q ∧ p :=
        fun ⟨h1, h2, h3, h4, h5⟩ => ⟨h2, h1, h3.symm, h5, h4⟩
      exact ⟨Or.imp_right swap, Or.imp_right swap⟩

theorem fill_origin {G : Nat → Nat → Bool} {a b : Nat} : ∀ {t : Nat}, fill G t a b = true →
    G a b = true ∨ ∃ s, s < t ∧ s < a ∧ s < b ∧ a ≠ b ∧ fill G s a s = true ∧ fill G s s b = true
  | 0, h => Or.inl h
  | t + 1, h => by
      rcases (fill_succ_iff G t a b).1 h with h' | ⟨h1, h2, h3, h4, h5⟩
      · rcases fill_origin h' with h'' | ⟨s, hs, rest⟩
        · exact Or.inl h''
        · exact Or.inr ⟨s, by omega, rest⟩
      · exact Or.inr ⟨t, by omega, h1, h2, h3, h4, h5⟩

theorem fill_closure {K S : Nat → Nat → Bool} {n : Nat}
    (hKS : ∀ a b, a < n → b < n → K a b = true → fill S n a b = true) :
    ∀ k a b, a < n → b < n → fill K k a b = true → fill S n a b = true
  | 0, a, b, ha, hb, h => hKS a b ha hb h
  | k + 1, a, b, ha, hb, h => by
      rcases (fill_succ_iff K k a b).1 h with h' | ⟨h1, h2, h3, h4, h5⟩
      · exact fill_closure hKS k a b ha hb h'
      · have e1 := fill_closure hKS k a k ha (by omega) h4
        have e2 := fill_closure hKS k k b (by omega) hb h5
        have e1' : fill S k a k = true := fill_of_later (Or.inr (Nat.le_refl _)) (by omega) e1
        have e2' : fill S k k b = true := fill_of_later (Or.inl (Nat.le_refl _)) (by omega) e2
        exact fill_mono (by omega) ((fill_succ_iff S k a b).2 (Or.inr ⟨h1, h2, h3, e1', e2'⟩))

/-- `par j` is the first `i > j` with a fill edge `(i,j)`, `n` when there is none -/
def IsEtree (G : Nat → Nat → Bool) (n : Nat) (par : Nat → Nat) : Prop :=
  ∀ j, j < n → j < par j ∧ par j ≤ n ∧ (par j < n → fill G n (par j) j = true) ∧
    ∀ i, j < i → i < par j → fill G n i j = false

section etree
variable {G : Nat → Nat → Bool} {n : Nat} {par : Nat → Nat}

theorem IsEtree.fctx (he : IsEtree G n par) : FCtx par n (fun x => x) :=
  ⟨fun w hw => (he w hw).2.1, fun w hw => (he w hw).1⟩

theorem IsEtree.par_le (he : IsEtree G n par) {i j : Nat} (hj : j < n) (hji : j < i)
    (hE : fill G n i j = true) : par j ≤ i :=
  Nat.le_of_not_lt fun hlt => by
    have := (he j hj).2.2.2 i hji hlt
    rw [hE] at this
    cases this

/-- a fill edge `(k, j)`, `j < k`, is handed up: `k = par j`, or eliminating `j` joins `par j` and `k` -/
theorem etree_step (hs : ∀ a b, G a b = G b a) (he : IsEtree G n par) {k j : Nat}
    (hE : fill G n k j = true) (hjk : j < k) (hkn : k < n) :
    par j = k ∨ (par j < k ∧ fill G n k (par j) = true) := by
  obtain ⟨h1, _, h3, _⟩ := he j (by omega)
  have hpk := he.par_le (by omega) hjk hE
  by_cases hp : par j = k
  · exact Or.inl hp
  · right
    have hpk' : par j < k := by omega
    refine ⟨hpk', ?_⟩
    have e1 : fill G j (par j) j = true := fill_of_later (Or.inr (Nat.le_refl _)) (by omega) (h3 (by omega))
    have e2 : fill G j j k = true := by
      rw [fill_symm hs]
      exact fill_of_later (Or.inr (Nat.le_refl _)) (by omega) hE
    have e3 : fill G (j + 1) (par j) k = true :=
      (fill_succ_iff G j _ _).2 (Or.inr ⟨h1, hjk, by omega, e1, e2⟩)
    rw [fill_symm hs]
    exact fill_mono (by omega) e3

theorem etree_anc (hs : ∀ a b, G a b = G b a) (he : IsEtree G n par) {k j : Nat}
    (hE : fill G n k j = true) (hjk : j < k) (hkn : k < n) : Desc par n k j := by
  -- `etree_step`, by induction on `k - j`
  have : ∀ d j, k - j ≤ d → fill G n k j = true → j < k → Desc par n k j := by
    intro d
    induction d with
    | zero =>
        omega
    | succ d ih =>
        intro j hd hE hjk
        have hj := he j (by omega)
        rcases etree_step hs he hE hjk hkn with hp | ⟨hp1, hp2⟩
        · exact Desc.step (by omega) (hp ▸ Desc.refl _)
        · exact Desc.step (by omega) (ih (par j) (by omega) hp2 hp1)
  exact this _ j (Nat.le_refl _) hE hjk

theorem desc_le (he : IsEtree G n par) {v x : Nat} (h : Desc par n v x) : x ≤ v :=
  h.le_of_increasing fun x hx => (he x hx).1

/-- a fill entry of row `k` at `x` is handed up to every ancestor `j < k` of `x` -/
theorem row_subtree_bwd (hs : ∀ a b, G a b = G b a) (he : IsEtree G n par) {k j x : Nat}
    (hd : Desc par n j x) (hE : fill G n k x = true) (hxk : x < k) (hjk : j < k) (hkn : k < n) :
    fill G n k j = true := by
  induction hd with
  | refl => exact hE
  | @step x hx hd' ih =>
      rcases etree_step hs he hE hxk hkn with hp | ⟨hp1, hp2⟩
      · rw [hp] at hd'
        have := desc_le he hd'
        omega
      · exact ih hp2 hp1

/-- every fill entry `(k, j)` comes from an original entry `(k, i)` in the subtree of `j` -/
theorem row_subtree_fwd (hs : ∀ a b, G a b = G b a) (he : IsEtree G n par) {j k : Nat}
    (hE : fill G n k j = true) (hjk : j < k) (hkn : k < n) : ∃ i, i ≤ j ∧ G k i = true ∧ Desc par n j i := by
  induction j using Nat.strongRecOn with
  | _ j ih =>
      have hj' : fill G j k j = true := fill_of_later (Or.inr (Nat.le_refl _)) (by omega) hE
      rcases fill_origin hj' with h | ⟨s, hs1, hs2, hs3, _, hs5, hs6⟩
      · exact ⟨j, Nat.le_refl _, h, Desc.refl _⟩
      · -- the edge was made by eliminating `s < j`: recurse on `(k, s)`; `j` is an ancestor of `s`
        have e2 : fill G n j s = true := by
          rw [fill_symm hs]
          exact fill_mono (by omega) hs6
        obtain ⟨i, hi1, hi2, hi3⟩ := ih s hs1 (fill_mono (by omega) hs5) hs2
        exact ⟨i, by omega, hi2, (etree_anc hs he e2 hs3 (by omega)).trans hi3⟩

theorem IsEtree.unique {par' : Nat → Nat} (he : IsEtree G n par) (he' : IsEtree G n par') :
    ∀ j, j < n → par j = par' j := by
  have le : ∀ {p p' : Nat → Nat}, IsEtree G n p → IsEtree G n p' → ∀ j, j < n → p j ≤ p' j := by
    intro p p' he he' j hj
    obtain ⟨b1, _, b3, _⟩ := he' j hj
    by_cases h : p' j < n
    · exact he.par_le hj b1 (b3 h)
    · have := (he j hj).2.1
      omega
  exact fun j hj => Nat.le_antisymm (le he he' j hj) (le he' he j hj)

end etree

theorem isEtree_congr {G H : Nat → Nat → Bool} {n : Nat} {par : Nat → Nat}
    (h : ∀ a b, a < n → b < n → fill G n a b = fill H n a b) (he : IsEtree G n par) : IsEtree H n par := by
  intro j hj
  obtain ⟨h1, h2, h3, h4⟩ := he j hj
  refine ⟨h1, h2, fun hlt => ?_, fun i hi1 hi2 => ?_⟩
  · rw [← h _ _ hlt hj]
    exact h3 hlt
  · rw [← h _ _ (by omega) hj]
    exact h4 i hi1 hi2

theorem isEtree_congr_par {G : Nat → Nat → Bool} {n : Nat} {par par' : Nat → Nat}
    (h : ∀ j, j < n → par' j = par j) (he : IsEtree G n par) : IsEtree G n par' := by
  intro j hj
  rw [h j hj]
  exact he j hj

end Slu.Pre
