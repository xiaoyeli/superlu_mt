/- `Slu.Pre.getN` / `getO`, the array accessors of Model/Etree.lean (not `Slu.getN` of Model/Sched).  A read at `j`
   after `a.setIfInBounds i v` is `if i = j ∧ i < a.size`: written index first, write dropped out of bounds. -/
import SluVerif.Model.Etree
import SluVerif.Proofs.ArrayLemmas
import SluVerif.Proofs.ListLemmas
namespace Slu.Pre

-- `getD_setIfInBounds` tests `j = i`
theorem getN_set (a : Array Nat) (i v j : Nat) :
    getN (a.setIfInBounds i v) j = if i = j ∧ i < a.size then v else getN a j :=
  (getD_setIfInBounds a i j v 0).trans
    (ite_congr (propext (and_congr_left' eq_comm)) (fun _ => rfl) fun _ => rfl)

theorem getO_set (a : Array (Option Nat)) (i : Nat) (v : Option Nat) (j : Nat) :
    getO (a.setIfInBounds i v) j = if i = j ∧ i < a.size then v else getO a j :=
  (getD_setIfInBounds a i j v none).trans
    (ite_congr (propext (and_congr_left' eq_comm)) (fun _ => rfl) fun _ => rfl)

theorem getN_set_ne {a : Array Nat} {i j v : Nat} (h : i ≠ j) :
    getN (a.setIfInBounds i v) j = getN a j :=
  getD_setIfInBounds_ne a v 0 h.symm

theorem getN_set_self {a : Array Nat} {i v : Nat} (h : i < a.size) :
    getN (a.setIfInBounds i v) i = v :=
  getD_setIfInBounds_self a v 0 h

theorem getO_set_ne {a : Array (Option Nat)} {i j : Nat} {v : Option Nat} (h : i ≠ j) :
    getO (a.setIfInBounds i v) j = getO a j :=
  getD_setIfInBounds_ne a v none h.symm

theorem getO_set_self {a : Array (Option Nat)} {i : Nat} {v : Option Nat} (h : i < a.size) :
    getO (a.setIfInBounds i v) i = v :=
  getD_setIfInBounds_self a v none h

theorem getN_replicate (n v i : Nat) : getN (Array.replicate n v) i = if i < n then v else 0 :=
  getD_replicate n i v 0

theorem getO_replicate (n : Nat) (v : Option Nat) (i : Nat) :
    getO (Array.replicate n v) i = if i < n then v else none :=
  getD_replicate n i v none

theorem getN_ofFn {n : Nat} {f : Fin n → Nat} {i : Nat} (h : i < n) : getN (Array.ofFn f) i = f ⟨i, h⟩ := by
  unfold getN
  simp [h]

theorem getN_eq_getElem {a : Array Nat} {i : Nat} (h : i < a.size) : getN a i = a[i] := by
  unfold getN
  simp [h]

end Slu.Pre
