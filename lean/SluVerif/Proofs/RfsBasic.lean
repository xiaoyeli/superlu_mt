/- accumulating loops as sums, vector congruence, linearity of the sparse operator of ?gsrfs -/
import SluVerif.Model.Rfs
import SluVerif.Proofs.GrowthBasic
import SluVerif.Proofs.LaconBasic
import SluVerif.Proofs.ListLemmas

namespace Slu
open Finset

theorem rmk_congr {n : Nat} {f g : Nat → Rat} (h : ∀ i, i < n → f i = g i) : rmk n f = rmk n g := by
  unfold rmk
  congr 1
  funext i
  exact h i.val i.isLt

theorem foldl_add_eq {α : Type} {l : List α} {g : α → Rat} {a : Rat} :
    l.foldl (fun s e => s + g e) a = a + (l.map g).sum := by
  induction l generalizing a with
  | nil => simp
  | cons e t ih =>
    simp only [List.foldl_cons, List.map_cons, List.sum_cons]
    rw [ih]
    ring

theorem colFold_eq (A : NCMat) (j : Nat) (g : Nat × Rat → Rat) (a : Rat) :
    colFold A j g a = a + ((A.col j).map g).sum := foldl_add_eq

theorem foldl_range_add (m : Nat) {step : Rat → Nat → Rat} {F : Nat → Rat}
    (h : ∀ s j, j < m → step s j = s + F j) : (List.range m).foldl step 0 = ∑ j ∈ range m, F j :=
  foldl_range_inv step (fun k a => a = ∑ j ∈ range k, F j) 0 m (Finset.sum_range_zero F).symm
    fun k a hk ha => by rw [h a k hk, ha, Finset.sum_range_succ]

theorem foldl_range_colFold (A : NCMat) (m : Nat) (g : Nat → Nat × Rat → Rat) :
    (List.range m).foldl (fun s j => colFold A j (g j) s) 0 = ∑ j ∈ range m, ((A.col j).map (g j)).sum :=
  foldl_range_add m fun s j _ => colFold_eq A j (g j) s

def NCMat.rowsOk (A : NCMat) : Prop := ∀ j, j < A.ncol → ∀ e ∈ A.col j, e.1 < A.nrow

theorem rget_vadd {n : Nat} (x d : RVec) {i : Nat} (h : i < n) : rget (vadd n x d) i = rget x i + rget d i := by
  unfold vadd
  rw [rget_rmk_lt h]

/-- `hsq` is used in the `notran` branch only, to read `vadd A.nrow x d` at a column index -/
theorem opMul_vadd (notran : Bool) (A : NCMat) (hsq : A.ncol = A.nrow) (hrows : A.rowsOk) (x d : RVec) (i : Nat)
    (hi : i < A.nrow) :
    opMul notran A (vadd A.nrow x d) i = opMul notran A x i + opMul notran A d i := by
  unfold opMul
  cases notran
  · -- transposed: dot product of column i with the vector
    simp only [Bool.false_eq_true, if_false]
    rw [colFold_eq, colFold_eq, colFold_eq, zero_add, zero_add, zero_add, ← List.sum_map_add]
    refine congrArg List.sum (List.map_congr_left fun e he => ?_)
    rw [rget_vadd x d (hrows i (by omega) e he)]
    ring
  · simp only [if_true]
    rw [foldl_range_colFold, foldl_range_colFold, foldl_range_colFold, ← Finset.sum_add_distrib]
    apply Finset.sum_congr rfl
    intro j hj
    rw [← List.sum_map_add]
    refine congrArg List.sum (List.map_congr_left fun e _ => ?_)
    have hj' : j < A.nrow := by
      rw [← hsq]
      exact mem_range.mp hj
    rw [rget_vadd x d hj']
    split <;> ring

end Slu
