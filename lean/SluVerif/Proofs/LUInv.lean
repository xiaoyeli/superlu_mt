/- the inductive invariant of the dense LU model; it is kept by a column step, hence by `luRun` and `factor` -/
import SluVerif.Proofs.LULemmas
import SluVerif.Props.C02

namespace Slu

/-- After `st.k` columns: `pos`/`piv` mutually inverse on the rows pivoted so far, `ell` unit lower triangular in pivot
order, `uu` upper triangular, the first `st.k` columns of `A` equal to `ell · uu`, `info` 0 or 1 + the first column with
a zero pivot.  `ell_future` (columns of `ell` not yet computed are zero) lets `col_id` sum over all `P.n` terms;
`cands_len` counts the unpivoted rows, so that after `n` steps every row has been pivoted. -/
structure LUInv (P : LUParams) (st : LUState) : Prop where
  k_le : st.k ≤ P.n
  piv_size : st.piv.size = st.k
  pos_size : st.pos.size = P.n
  pos_piv : ∀ t, t < st.k → st.piv.getD t 0 < P.n ∧ posOf st (st.piv.getD t 0) = some t
  pos_inv : ∀ i t, posOf st i = some t → t < st.k ∧ st.piv.getD t 0 = i
  ell_one : ∀ t, t < st.k → getQ st.ell (st.piv.getD t 0) t = 1
  ell_zero : ∀ t s, t < st.k → t < s → s < P.n → getQ st.ell (st.piv.getD t 0) s = 0
  ell_future : ∀ i s, i < P.n → st.k ≤ s → s < P.n → getQ st.ell i s = 0
  uu_upper : ∀ t j, j < st.k → j < t → t < P.n → getQ st.uu t j = 0
  col_id : ∀ i j, i < P.n → j < st.k → getQ P.A i j = sumQ P.n (fun t => getQ st.ell i t * getQ st.uu t j)
  cands_len : (candRows P st).length = P.n - st.k
  info_ok : st.info = 0 → ∀ j, j < st.k → getQ st.uu j j ≠ 0
  info_bad : ∀ m, st.info = m + 1 → m < st.k ∧ getQ st.uu m m = 0 ∧ ∀ j, j < m → getQ st.uu j j ≠ 0

theorem posOf_init (n : Nat) (usepr : Bool) (i : Nat) : posOf (luInit n usepr) i = none :=
  (getD_replicate n i none none).trans (ite_self _)

theorem luInv_init (P : LUParams) (usepr : Bool) : LUInv P (luInit P.n usepr) where
  k_le := Nat.zero_le _
  piv_size := rfl
  pos_size := Array.size_replicate
  pos_piv := fun t ht => absurd ht (Nat.not_lt_zero t)
  pos_inv := fun i t h => by
    rw [posOf_init] at h
    cases h
  ell_one := fun t ht => absurd ht (Nat.not_lt_zero t)
  ell_zero := fun t s ht => absurd ht (Nat.not_lt_zero t)
  ell_future := fun i s hi _ hs => getQ_tabQ _ _ _ _ hi hs
  uu_upper := fun t j hj => absurd hj (Nat.not_lt_zero j)
  col_id := fun i j _ hj => absurd hj (Nat.not_lt_zero j)
  cands_len := by
    have : candRows P (luInit P.n usepr) = List.range P.n :=
      List.filter_eq_self.2 fun i _ => by
        rw [posOf_init]
        rfl
    rw [this, List.length_range]
    rfl
  info_ok := fun _ j hj => absurd hj (Nat.not_lt_zero j)
  info_bad := fun m hm => nomatch hm

/-- row `piv t` of `ell` is 1 at `t` and 0 beyond: applied to an `x` that satisfies the forward-substitution equation
at `t` it gives back the right-hand side `c` -/
theorem LUInv.lower_row {P : LUParams} {st : LUState} (inv : LUInv P st) (x : Nat → Rat) (c : Rat) (t N : Nat)
    (ht : t < st.k) (htN : t < N) (hN : N ≤ P.n)
    (hrec : x t = c - sumQ t fun s => getQ st.ell (st.piv.getD t 0) s * x s) :
    sumQ N (fun s => getQ st.ell (st.piv.getD t 0) s * x s) = c := by
  rw [sumQ_zero_tail N t htN fun s h1 h2 => by rw [inv.ell_zero t s ht h1 (by omega), zero_mul],
    inv.ell_one t ht, one_mul, hrec, add_sub_cancel]

/-- `stepU`, `stepSel`, `stepRow`, `stepC`: the `let`s `u`, `sel`, `r`, `candVal P st u` of `luStep` -/
def stepU (P : LUParams) (st : LUState) : Array Rat := ucolA P.A st.ell st.piv st.k st.k
def stepSel (P : LUParams) (st : LUState) : PivSel := pivotSelect (pivIn P st (stepU P st))
def stepRow (P : LUParams) (st : LUState) : Nat := (candRows P st).getD (stepSel P st).pivptr 0
def stepC (P : LUParams) (st : LUState) (i : Nat) : Rat := candVal P st (stepU P st) i

/-- `pivIn` has `nsupc = 0` and `rows` = the candidate list -/
theorem pivIn_cand {P : LUParams} {st : LUState} {u : Array Rat} {idx : Nat} :
    (pivIn P st u).cand idx ↔ idx < (candRows P st).length := by
  simp [PivIn.cand, pivIn]

theorem pivIn_mag {P : LUParams} {st : LUState} {u : Array Rat} {idx : Nat} (h : idx < (candRows P st).length) :
    (pivIn P st u).mag idx = qabs (candVal P st u ((candRows P st).getD idx 0)) := by
  simp only [PivIn.mag, pivIn]
  exact getD_map_toArray h

theorem pivIn_row {P : LUParams} {st : LUState} {u : Array Rat} {idx : Nat} (h : idx < (candRows P st).length) :
    (pivIn P st u).row idx = Int.ofNat ((candRows P st).getD idx 0) := by
  simp only [PivIn.row, pivIn]
  exact getD_map_toArray h

theorem pivIn_magsNonneg {P : LUParams} {st : LUState} {u : Array Rat} : (pivIn P st u).MagsNonneg := by
  intro i
  by_cases h : i < (candRows P st).length
  · rw [pivIn_mag h]
    exact qabs_nonneg _
  · -- a read past the end yields 0
    simp [PivIn.mag, pivIn, Array.getD, h]

theorem stepRow_spec (P : LUParams) (st : LUState) (hc : 0 < (candRows P st).length) :
    (stepSel P st).pivptr < (candRows P st).length ∧ stepRow P st ∈ candRows P st := by
  have h0 : (pivIn P st (stepU P st)).cand 0 := pivIn_cand.2 hc
  have hlt := pivIn_cand.1 (pivot_ptr_cand _ h0.2)
  exact ⟨hlt, list_getD_mem hlt⟩

theorem stepC_ne_zero (P : LUParams) (st : LUState) (hc : 0 < (candRows P st).length)
    (h : (stepSel P st).info = 0) : stepC P st (stepRow P st) ≠ 0 := by
  have hnz : (pivIn P st (stepU P st)).mag (stepSel P st).pivptr ≠ 0 := pivot_nonzero _ h
  rw [pivIn_mag (stepRow_spec P st hc).1] at hnz
  exact fun h0 => hnz (qabs_eq_zero.2 h0)

theorem stepC_all_zero (P : LUParams) (st : LUState)
    (h : (stepSel P st).info ≠ 0) (i : Nat) (hi : i ∈ candRows P st) : stepC P st i = 0 := by
  obtain ⟨idx, hidx, hget⟩ := List.getElem_of_mem hi
  have e : (candRows P st).getD idx 0 = i := (List.getElem_eq_getD 0).symm.trans hget
  have := (pivot_singular_iff _ pivIn_magsNonneg).1 h idx (pivIn_cand.2 hidx)
  rwa [pivIn_mag hidx, qabs_eq_zero, e] at this

theorem luStep_k (P : LUParams) (st : LUState) : (luStep P st).k = st.k + 1 := rfl
theorem luStep_info (P : LUParams) (st : LUState) :
    (luStep P st).info = if st.info = 0 ∧ (stepSel P st).info ≠ 0 then st.k + 1 else st.info := rfl

theorem luStep_piv {P : LUParams} {st : LUState} (inv : LUInv P st) (t : Nat) :
    (luStep P st).piv.getD t 0 = if t = st.k then stepRow P st else st.piv.getD t 0 := by
  rw [← inv.piv_size]
  exact getD_push ..

theorem posOf_luStep {P : LUParams} {st : LUState} {i : Nat} (hr : stepRow P st < st.pos.size) :
    posOf (luStep P st) i = if i = stepRow P st then some st.k else posOf st i := by
  simp only [posOf, luStep]
  exact getD_setIfInBounds_of_lt _ _ _ _ _ hr

theorem luStep_ell {P : LUParams} {st : LUState} {i t : Nat} (hi : i < P.n) (ht : t < P.n) :
    getQ (luStep P st).ell i t =
      if t = st.k then
        (if i = stepRow P st then 1 else if (posOf st i).isNone then
          (if (stepSel P st).info = 0 then stepC P st i / stepC P st (stepRow P st) else stepC P st i) else 0)
      else getQ st.ell i t := by
  simp only [luStep, getQ_tabQ _ _ _ _ hi ht]
  -- what is left identifies the `let`s of `luStep` with `stepU`, `stepSel`, `stepRow`, `stepC`
  rfl

theorem luStep_uu {P : LUParams} {st : LUState} {t j : Nat} (ht : t < P.n) (hj : j < P.n) :
    getQ (luStep P st).uu t j =
      if j = st.k then (if t < st.k then (stepU P st).getD t 0 else if t = st.k then stepC P st (stepRow P st) else 0)
      else getQ st.uu t j := by
  simp only [luStep, getQ_tabQ _ _ _ _ ht hj]
  rfl

theorem luStep_ell_old {P : LUParams} {st : LUState} {i t : Nat} (hi : i < P.n) (ht : t < P.n) (h : t ≠ st.k) :
    getQ (luStep P st).ell i t = getQ st.ell i t := by
  rw [luStep_ell hi ht, if_neg h]

theorem luStep_uu_old {P : LUParams} {st : LUState} {t j : Nat} (ht : t < P.n) (hj : j < P.n) (h : j ≠ st.k) :
    getQ (luStep P st).uu t j = getQ st.uu t j := by
  rw [luStep_uu ht hj, if_neg h]

theorem luInv_step (P : LUParams) (st : LUState) (inv : LUInv P st) (hk : st.k < P.n) :
    LUInv P (luStep P st) := by
  have hclen : 0 < (candRows P st).length := by
    rw [inv.cands_len]
    omega
  obtain ⟨-, hrmem⟩ := stepRow_spec P st hclen
  obtain ⟨hrn, hrpos⟩ := (mem_candRows P st _).1 hrmem
  have hrsz : stepRow P st < st.pos.size := inv.pos_size ▸ hrn
  -- the new pivot row was not pivoted before
  have hr_ne : ∀ t, t < st.k → st.piv.getD t 0 ≠ stepRow P st := fun t ht e => by
    have := (inv.pos_piv t ht).2
    rw [e, hrpos] at this
    cases this
  have hpivold : ∀ t, t < st.k → (luStep P st).piv.getD t 0 = st.piv.getD t 0 := fun t ht => by
    rw [luStep_piv inv, if_neg (Nat.ne_of_lt ht)]
  have hpivnew : (luStep P st).piv.getD st.k 0 = stepRow P st := by rw [luStep_piv inv, if_pos rfl]
  have hdiag_old : ∀ j, j < st.k → getQ (luStep P st).uu j j = getQ st.uu j j := fun j hj =>
    luStep_uu_old (by omega) (by omega) (Nat.ne_of_lt hj)
  have hdiag_new : getQ (luStep P st).uu st.k st.k = stepC P st (stepRow P st) := by
    rw [luStep_uu hk hk, if_pos rfl, if_neg (Nat.lt_irrefl _), if_pos rfl]
  refine ⟨Nat.succ_le_of_lt hk, ?piv_size, ?pos_size, ?pos_piv, ?pos_inv, ?ell_one, ?ell_zero, ?ell_future, ?uu_upper,
    ?col_id, ?cands_len, ?info_ok, ?info_bad⟩
  case piv_size => exact (Array.size_push _).trans (congrArg (· + 1) inv.piv_size)
  case pos_size => exact Array.size_setIfInBounds.trans inv.pos_size
  case pos_piv =>
    intro t ht
    rcases Nat.lt_succ_iff_lt_or_eq.1 ht with ht' | rfl
    · rw [hpivold t ht', posOf_luStep hrsz, if_neg (hr_ne t ht')]
      exact inv.pos_piv t ht'
    · rw [hpivnew, posOf_luStep hrsz, if_pos rfl]
      exact ⟨hrn, rfl⟩
  case pos_inv =>
    intro i t h
    rw [posOf_luStep hrsz] at h
    by_cases e : i = stepRow P st
    · rw [if_pos e] at h
      cases h
      exact ⟨Nat.lt_succ_self _, hpivnew.trans e.symm⟩
    · rw [if_neg e] at h
      obtain ⟨h1, h2⟩ := inv.pos_inv i t h
      exact ⟨Nat.lt_succ_of_lt h1, (hpivold t h1).trans h2⟩
  case ell_one =>
    intro t ht
    rcases Nat.lt_succ_iff_lt_or_eq.1 ht with ht' | rfl
    · rw [hpivold t ht', luStep_ell_old (inv.pos_piv t ht').1 (by omega) (Nat.ne_of_lt ht')]
      exact inv.ell_one t ht'
    · rw [hpivnew, luStep_ell hrn hk, if_pos rfl, if_pos rfl]
  case ell_zero =>
    intro t s ht hts hs
    rcases Nat.lt_succ_iff_lt_or_eq.1 ht with ht' | rfl
    · rw [hpivold t ht']
      by_cases es : s = st.k
      · -- the new column is zero on rows pivoted earlier
        rw [luStep_ell (inv.pos_piv t ht').1 hs, if_pos es, if_neg (hr_ne t ht'), (inv.pos_piv t ht').2,
          Option.isNone_some, if_neg Bool.false_ne_true]
      · rw [luStep_ell_old (inv.pos_piv t ht').1 hs es]
        exact inv.ell_zero t s ht' hts hs
    · rw [hpivnew, luStep_ell_old hrn hs (Nat.ne_of_gt hts)]
      exact inv.ell_future _ _ hrn (Nat.le_of_lt hts) hs
  case ell_future =>
    intro i s hi hks hs
    rw [luStep_ell_old hi hs (Nat.ne_of_gt hks)]
    exact inv.ell_future i s hi (Nat.le_of_succ_le hks) hs
  case uu_upper =>
    intro t j hj hjt ht
    rcases Nat.lt_succ_iff_lt_or_eq.1 hj with hj' | rfl
    · rw [luStep_uu_old ht (by omega) (Nat.ne_of_lt hj')]
      exact inv.uu_upper t j hj' hjt ht
    · rw [luStep_uu ht hk, if_pos rfl, if_neg (Nat.lt_asymm hjt), if_neg (Nat.ne_of_gt hjt)]
  case col_id =>
    intro i j hi hj
    rcases Nat.lt_succ_iff_lt_or_eq.1 hj with hj' | rfl
    · -- an old column: the new multiplier column meets only zeros of U
      rw [inv.col_id i j hi hj']
      refine sumQ_congr _ fun t ht => ?_
      rw [luStep_uu_old ht (by omega) (Nat.ne_of_lt hj')]
      by_cases h2 : t = st.k
      · rw [h2, inv.uu_upper st.k j hj' hj' hk, mul_zero, mul_zero]
      · rw [luStep_ell_old hi ht h2]
    · -- the new column of `ell` times the pivot gives the candidate values `c_i = A i k - Σ_{t<k} ell i t · u_t`,
      -- which vanish on the rows pivoted earlier
      have hnew : getQ (luStep P st).ell i st.k * stepC P st (stepRow P st) = stepC P st i := by
        rw [luStep_ell hi hk, if_pos rfl]
        by_cases hir : i = stepRow P st
        · rw [if_pos hir, one_mul, hir]
        rw [if_neg hir]
        cases hpi : posOf st i with
        | none =>
          rw [Option.isNone_none, if_pos rfl]
          by_cases hinfo : (stepSel P st).info = 0
          · rw [if_pos hinfo, div_mul_cancel₀ _ (stepC_ne_zero P st hclen hinfo)]
          · rw [stepC_all_zero P st hinfo _ hrmem, mul_zero,
              stepC_all_zero P st hinfo i ((mem_candRows P st i).2 ⟨hi, hpi⟩)]
        | some t0 =>
          -- forward substitution defined `u_{t0}` from this row
          obtain ⟨ht0, hpiv0⟩ := inv.pos_inv i t0 hpi
          have := inv.lower_row (fun t => (stepU P st).getD t 0) (getQ P.A i st.k) t0 st.k ht0 ht0 inv.k_le
            (hpiv0 ▸ ucolA_rec P.A st.ell st.piv st.k t0 st.k ht0)
          rw [hpiv0] at this
          rw [Option.isNone_some, if_neg Bool.false_ne_true, zero_mul]
          exact (sub_eq_zero.2 this.symm).symm
      -- column `k` of the new `uu`: 0 below the diagonal, the pivot on it, `u_t` above it
      have hbelow : ∀ t, st.k < t → t < P.n → getQ (luStep P st).ell i t * getQ (luStep P st).uu t st.k = 0 :=
        fun t h1 h2 => by
          rw [luStep_uu h2 hk, if_pos rfl, if_neg (Nat.lt_asymm h1), if_neg (Nat.ne_of_gt h1), mul_zero]
      have habove : ∀ t, t < st.k →
          getQ (luStep P st).ell i t * getQ (luStep P st).uu t st.k = getQ st.ell i t * (stepU P st).getD t 0 :=
        fun t ht => by
          rw [luStep_uu (by omega) hk, if_pos rfl, if_pos ht,
            luStep_ell_old hi (by omega) (Nat.ne_of_lt ht)]
      rw [sumQ_zero_tail P.n st.k hk hbelow, hdiag_new, hnew, sumQ_congr st.k habove]
      exact (add_sub_cancel _ _).symm
  case cands_len =>
    have hfil : candRows P (luStep P st) = (candRows P st).filter (fun i => i != stepRow P st) := by
      unfold candRows
      rw [List.filter_filter]
      refine List.filter_congr fun i _ => ?_
      rw [posOf_luStep hrsz]
      by_cases e : i = stepRow P st <;> simp [e]
    rw [hfil, ← List.Nodup.erase_eq_filter (candRows_nodup P st), List.length_erase_of_mem hrmem, inv.cands_len,
      luStep_k]
    omega
  case info_ok =>
    intro h0 j hj
    rw [luStep_info] at h0
    split at h0
    · cases h0
    · next hc =>
      rcases Nat.lt_succ_iff_lt_or_eq.1 hj with hj' | rfl
      · rw [hdiag_old j hj']
        exact inv.info_ok h0 j hj'
      · rw [hdiag_new]
        exact stepC_ne_zero P st hclen (by_contra fun hne => hc ⟨h0, hne⟩)
  case info_bad =>
    intro m hm
    rw [luStep_info] at hm
    split at hm
    · next hc =>
      cases hm
      refine ⟨Nat.lt_succ_self _, hdiag_new.trans (stepC_all_zero P st hc.2 _ hrmem), fun j hj => ?_⟩
      rw [hdiag_old j hj]
      exact inv.info_ok hc.1 j hj
    · obtain ⟨b1, b2, b3⟩ := inv.info_bad m hm
      refine ⟨Nat.lt_succ_of_lt b1, (hdiag_old m b1).trans b2, fun j hj => ?_⟩
      rw [hdiag_old j (Nat.lt_trans hj b1)]
      exact b3 j hj

theorem luInv_run (P : LUParams) (m : Nat) (st : LUState) (inv : LUInv P st) (hm : st.k + m ≤ P.n) :
    LUInv P (luRun P m st) ∧ (luRun P m st).k = st.k + m := by
  induction m generalizing st with
  | zero => exact ⟨inv, rfl⟩
  | succ m ih =>
    have hk1 := luStep_k P st
    have := ih (luStep P st) (luInv_step P st inv (by omega)) (by omega)
    exact ⟨this.1, this.2.trans (by omega)⟩

theorem luInv_factor (P : LUParams) (usepr : Bool) :
    LUInv P (factor P usepr) ∧ (factor P usepr).k = P.n := by
  have := luInv_run P P.n (luInit P.n usepr) (luInv_init P usepr) (Nat.le_of_eq (Nat.zero_add _))
  exact ⟨this.1, this.2.trans (Nat.zero_add _)⟩

end Slu
