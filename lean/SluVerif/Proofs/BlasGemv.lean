/- sp_?gemv: the sweeps `gemvN`, `gemvT` and `y := beta*y` against the dense matrix the store denotes -/
import SluVerif.Proofs.BlasGemvOps
namespace Slu.Blas
open Finset
variable {α : Type}

section Ring
variable [CommRing α]

/-- entry `(i, j)`: the sum of the stored values of column `j` with row index `i` (one term without duplicates) -/
def NCMat.dense (A : NCMat α) (i j : Nat) : α :=
  ∑ k ∈ range (A.clen j), if A.ri (A.cp j + k) = i then A.nz (A.cp j + k) else 0

def NCMat.rowsOk (A : NCMat α) : Prop :=
  ∀ j < A.ncol.toNat, ∀ k < A.clen j, A.ri (A.cp j + k) < A.nrow.toNat

theorem rd_axpyCol (A : NCMat α) (j : Nat) (temp : α) (yoff : Nat) (y : Array α)
    (hb : ∀ k < A.clen j, yoff + A.ri (A.cp j + k) < y.size) (q : Nat) :
    rd (axpyCol A j temp yoff y) q
      = rd y q + ∑ k ∈ range (A.clen j), if yoff + A.ri (A.cp j + k) = q then temp * A.nz (A.cp j + k) else 0 :=
  rd_foldl_acc (fun k => yoff + A.ri (A.cp j + k)) (fun k => temp * A.nz (A.cp j + k)) y _ hb q

theorem size_axpyCol (A : NCMat α) (j : Nat) (temp : α) (yoff : Nat) (y : Array α) :
    (axpyCol A j temp yoff y).size = y.size :=
  size_foldl_acc (fun k => yoff + A.ri (A.cp j + k)) (fun k => temp * A.nz (A.cp j + k)) y _

theorem dotCol_eq_sum (A : NCMat α) (j : Nat) (x : Array α) (xoff : Nat) :
    dotCol A j x xoff = ∑ k ∈ range (A.clen j), A.nz (A.cp j + k) * rd x (xoff + A.ri (A.cp j + k)) := by
  unfold dotCol
  rw [foldl_add_eq_sum (fun k => A.nz (A.cp j + k) * rd x (xoff + A.ri (A.cp j + k))) 0, zero_add]

theorem dotCol_eq_dense (A : NCMat α) (j : Nat) (x : Array α) (xoff : Nat) (m : Nat)
    (hr : ∀ k < A.clen j, A.ri (A.cp j + k) < m) :
    dotCol A j x xoff = ∑ i ∈ range m, A.dense i j * rd x (xoff + i) := by
  rw [dotCol_eq_sum]
  unfold NCMat.dense
  simp only [sum_mul, ite_mul, zero_mul]
  rw [sum_comm]
  refine sum_congr rfl fun k hk => ?_
  rw [sum_ite_eq, if_pos (mem_range.mpr (hr k (mem_range.mp hk)))]

theorem gemvT_spec (alpha : α) (A : NCMat α) (x : Array α) (xoff yoff : Nat) (incy : Int) (y : Array α)
    (n : Nat) (hn : A.ncol = (n : Int)) (hiy : incy ≠ 0)
    (hrows : A.rowsOk) (hy : n = 0 ∨ yoff + (n - 1) * incy.natAbs < y.size) :
    (gemvT alpha A x xoff yoff incy y).size = y.size ∧
    (∀ j < n, rd (gemvT alpha A x xoff yoff incy y) (yoff + spos (n : Int) incy j)
        = rd y (yoff + spos (n : Int) incy j)
          + alpha * ∑ i ∈ range A.nrow.toNat, A.dense i j * rd x (xoff + i)) ∧
    (∀ q, (∀ j < n, q ≠ yoff + spos (n : Int) incy j) → rd (gemvT alpha A x xoff yoff incy y) q = rd y q) := by
  obtain ⟨hb, hinj⟩ := spos_lt_inj n incy hiy yoff y.size hy
  have hN : A.ncol.toNat = n := by rw [hn]; exact Int.toNat_natCast n
  unfold gemvT
  rw [hN, hn]
  have key := rd_foldl_acc (fun j => yoff + spos (n : Int) incy j) (fun j => alpha * dotCol A j x xoff) y n hb
  refine ⟨size_foldl_acc _ _ y n, fun j hj => ?_, fun q hq => ?_⟩
  · rw [key, sum_eq_single_of_mem j (mem_range.mpr hj)
        fun j' hj' hne => if_neg fun e => hne (hinj j' (mem_range.mp hj') j hj e),
      if_pos rfl, dotCol_eq_dense A j x xoff A.nrow.toNat fun k hk => hrows j (by omega) k hk]
  · rw [key, sum_eq_zero, add_zero]
    exact fun k hk => if_neg fun e => hq k (mem_range.mp hk) e.symm

variable [DecidableEq α]

theorem gemvN_spec (alpha : α) (A : NCMat α) (x : Array α) (xoff : Nat) (incx : Int) (yoff : Nat) (y : Array α)
    (hrows : A.rowsOk) (hy : yoff + A.nrow.toNat ≤ y.size) :
    (gemvN alpha A x xoff incx yoff y).size = y.size ∧
    (∀ i < A.nrow.toNat, rd (gemvN alpha A x xoff incx yoff y) (yoff + i)
        = rd y (yoff + i) + alpha * ∑ j ∈ range A.ncol.toNat, A.dense i j * rd x (xoff + spos A.ncol incx j)) ∧
    (∀ q, (∀ i < A.nrow.toNat, q ≠ yoff + i) → rd (gemvN alpha A x xoff incx yoff y) q = rd y q) := by
  unfold gemvN
  obtain ⟨k1, k2⟩ := rd_foldl_additive
    (fun y j => if rd x (xoff + spos A.ncol incx j) ≠ 0 then
        axpyCol A j (alpha * rd x (xoff + spos A.ncol incx j)) yoff y else y)
    (fun j q => ∑ k ∈ range (A.clen j), if yoff + A.ri (A.cp j + k) = q then
        (alpha * rd x (xoff + spos A.ncol incx j)) * A.nz (A.cp j + k) else 0)
    A.ncol.toNat y
    (by
      intro y' j hj hs
      by_cases hx : rd x (xoff + spos A.ncol incx j) = 0
      · simp [hx, hs]
      · simp only [ne_eq, hx, not_false_eq_true, if_true]
        exact ⟨by rw [size_axpyCol, hs], rd_axpyCol A j _ yoff y'
          fun k hk => by have := hrows j hj k hk; omega⟩)
  refine ⟨k1, fun i hi => ?_, fun q hq => ?_⟩
  · rw [k2, mul_sum]
    refine congrArg _ (sum_congr rfl fun j _ => ?_)
    unfold NCMat.dense
    rw [sum_mul, mul_sum]
    refine sum_congr rfl fun k _ => ?_
    by_cases h : A.ri (A.cp j + k) = i
    · rw [if_pos h, if_pos (congrArg (yoff + ·) h)]
      ring
    · rw [if_neg h, if_neg fun e => h (Nat.add_left_cancel e), zero_mul, mul_zero]
  · rw [k2, sum_eq_zero, add_zero]
    intro j hj
    refine sum_eq_zero fun k hk => if_neg fun e => ?_
    exact hq _ (hrows j (mem_range.mp hj) k (mem_range.mp hk)) e.symm

theorem scaleY_spec (beta : α) (len : Nat) (incy : Int) (yoff : Nat) (y : Array α) (hiy : incy ≠ 0)
    (hy : len = 0 ∨ yoff + (len - 1) * incy.natAbs < y.size) :
    (scaleY beta (len : Int) incy yoff y).size = y.size ∧
    (∀ i < len, rd (scaleY beta (len : Int) incy yoff y) (yoff + spos (len : Int) incy i)
        = beta * rd y (yoff + spos (len : Int) incy i)) ∧
    (∀ q, (∀ i < len, q ≠ yoff + spos (len : Int) incy i) →
      rd (scaleY beta (len : Int) incy yoff y) q = rd y q) := by
  obtain ⟨hb, hinj⟩ := spos_lt_inj len incy hiy yoff y.size hy
  rw [scaleY_eq]
  by_cases h1 : beta = 1
  · rw [if_pos h1, h1]; exact ⟨rfl, fun i _ => (one_mul _).symm, fun _ _ => rfl⟩
  · rw [if_neg h1]
    obtain ⟨a, b, c⟩ := rd_foldl_update (fun i => yoff + spos (len : Int) incy i)
      (fun _ v => if beta = 0 then 0 else beta * v) y len hb hinj
    refine ⟨c, fun i hi => (a i hi).trans ?_, fun q hq => b q (fun i hi e => hq i hi e.symm)⟩
    split_ifs with h0
    · rw [h0, zero_mul]
    · rfl

/-- the shortcuts (quick return `c`, possible only for `alpha = 0 ∧ beta = 1`; `alpha = 0`) agree with the general
path.  `hs`: what `y := beta*y` does (`y` to `y1`); `hz`: what the sweep does (`y1` to `z`). -/
theorem gemv_finish (alpha beta : α) (y : Array α) {y1 z : Array α} (len : Nat) (p : Nat → Nat) {S : Nat → α}
    {c : Prop} [Decidable c] (hc : c → alpha = 0 ∧ beta = 1)
    (hs : y1.size = y.size ∧ (∀ i < len, rd y1 (p i) = beta * rd y (p i)) ∧
      ∀ q, (∀ i < len, q ≠ p i) → rd y1 q = rd y q)
    (hz : z.size = y1.size ∧ (∀ i < len, rd z (p i) = rd y1 (p i) + alpha * S i) ∧
      ∀ q, (∀ i < len, q ≠ p i) → rd z q = rd y1 q) :
    ∃ y', (if c then GemvRes.ok y else if alpha = 0 then .ok y1 else .ok z) = .ok y' ∧
      y'.size = y.size ∧ (∀ i < len, rd y' (p i) = alpha * S i + beta * rd y (p i)) ∧
      (∀ q, (∀ i < len, q ≠ p i) → rd y' q = rd y q) := by
  obtain ⟨s1, s2, s3⟩ := hs
  obtain ⟨g1, g2, g3⟩ := hz
  by_cases hq : c
  · rw [if_pos hq]
    exact ⟨y, rfl, rfl, fun i _ => by rw [(hc hq).1, (hc hq).2]; ring, fun q _ => rfl⟩
  rw [if_neg hq]
  by_cases ha : alpha = 0
  · rw [if_pos ha]
    exact ⟨_, rfl, s1, fun i hi => by rw [s2 i hi, ha]; ring, s3⟩
  rw [if_neg ha]
  exact ⟨_, rfl, g1.trans s1, fun i hi => by rw [g2 i hi, s2 i hi]; ring, fun q hq' => (g3 q hq').trans (s3 q hq')⟩

end Ring
end Slu.Blas
