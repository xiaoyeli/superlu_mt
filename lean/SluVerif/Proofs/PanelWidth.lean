/-
The width one iteration of `ParallelInit`'s partition loop computes (`panelWidth` = `pw0` panel_size / stop before the next
relaxed supernode, `pw1` SPLIT_TOP halving, `pw2` stop at a branch point) is between 1 and panel_size and reaches neither
past n nor into the next relaxed supernode; so the model's fall-back `if w == 0 then 1 else w` never fires.
-/
import SluVerif.Model.Sched
namespace Slu
open Slu.Gen

theorem pw0_bounds (c : PanelCfg) (i f : Nat) (hps : 1 ≤ c.panelSize) (hi : i < c.n) (hf : i < f) :
    1 ≤ pw0 c i f ∧ i + pw0 c i f ≤ c.n ∧ i + pw0 c i f ≤ f ∧ pw0 c i f ≤ c.panelSize := by
  unfold pw0
  simp only []
  split
  · next k hk =>
    -- the search stopped at `k = f`, inside `(i, min (i + panel_size) n)`
    obtain ⟨hp, hm, -⟩ := List.find?_range'_eq_some.1 hk
    rw [List.mem_range'_1] at hm
    have := beq_iff_eq.1 hp
    omega
  · next hnone =>
    -- no hit: `f` is not inside the interval searched
    have hfout : ¬ (i + 1 ≤ f ∧ f < min (i + c.panelSize) c.n) := fun hin => by
      have := List.find?_range'_eq_none.1 hnone f hin.1 (by omega)
      simp at this
    split
    · next hc =>
      simp only [Bool.and_eq_true, beq_iff_eq] at hc
      omega
    · next hc =>
      simp only [Bool.and_eq_true, beq_iff_eq, decide_eq_true_eq] at hc
      omega

theorem pwTop_pos (c : PanelCfg) : 1 ≤ pwTop c := by
  unfold pwTop
  split
  · omega
  · next hc =>
      have := mt beq_iff_eq.2 hc
      omega

theorem pw1_bounds (b : Bool) (wTop w0 : Nat) (ht : 1 ≤ wTop) (h0 : 1 ≤ w0) :
    1 ≤ (pw1 b wTop w0).1 ∧ (pw1 b wTop w0).1 ≤ w0 ∧ (pw1 b wTop w0).2 ≤ 1 := by
  unfold pw1
  split
  · next hc =>
    simp only [Bool.and_eq_true, decide_eq_true_eq] at hc
    exact ⟨ht, Nat.le_of_lt hc.2, Nat.le_refl 1⟩
  · exact ⟨h0, Nat.le_refl _, Nat.zero_le 1⟩

theorem pw2_bounds (ukids0 : Array Int) (i w1 : Nat) (h1 : 1 ≤ w1) :
    1 ≤ pw2 ukids0 i w1 ∧ pw2 ukids0 i w1 ≤ w1 := by
  unfold pw2
  split
  · next k hk =>
    have hm := (List.find?_range'_eq_some.1 hk).2.1
    rw [List.mem_range'_1] at hm
    omega
  · exact ⟨h1, Nat.le_refl _⟩

theorem pw2_no_branch (ukids0 : Array Int) (i w1 j : Nat) (hj : i < j) (hjw : j < i + pw2 ukids0 i w1) :
    ¬ getZ ukids0 j > 1 := by
  unfold pw2 at hjw
  split at hjw
  · next k hk => simpa using (List.find?_range'_eq_some.1 hk).2.2 j hj (by omega)
  · next hnone => simpa using List.find?_range'_eq_none.1 hnone j hj (by omega)

theorem panelWidth_bounds (c : PanelCfg) (ukids0 : Array Int) (i f : Nat) (ds : Bool)
    (hps : 1 ≤ c.panelSize) (hi : i < c.n) (hf : i < f) :
    1 ≤ (panelWidth c ukids0 i f ds).1 ∧ i + (panelWidth c ukids0 i f ds).1 ≤ c.n
      ∧ i + (panelWidth c ukids0 i f ds).1 ≤ f ∧ (panelWidth c ukids0 i f ds).1 ≤ c.panelSize
      ∧ (panelWidth c ukids0 i f ds).2.2 ≤ 1 := by
  have A := pw0_bounds c i f hps hi hf
  -- `B` carries the very Boolean `panelWidth` passes to `pw1`: `omega` below matches the `pw*` terms as atoms
  have B := pw1_bounds (SPLIT_TOP && (ds || (SPLIT_TOP && decide (c.n - i < c.panelSize * SPLIT_P)))) (pwTop c)
    (pw0 c i f) (pwTop_pos c) A.1
  have C := pw2_bounds ukids0 i _ B.1
  unfold panelWidth
  simp only []
  omega

/-- no column strictly inside a regular panel is a branch point of the etree -/
theorem panelWidth_no_branch (c : PanelCfg) (ukids0 : Array Int) (i f : Nat) (ds : Bool)
    (hps : 1 ≤ c.panelSize) (hi : i < c.n) (hf : i < f) (j : Nat) (hj : i < j)
    (hjw : j < i + (panelWidth c ukids0 i f ds).1) : ¬ getZ ukids0 j > 1 :=
  pw2_no_branch ukids0 i _ j hj hjw

end Slu
