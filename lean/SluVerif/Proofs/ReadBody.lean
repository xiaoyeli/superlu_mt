/- The three data sections as written, read back. -/
import SluVerif.Proofs.ReadSlice
import SluVerif.Proofs.ReadDec
namespace Slu.Read

theorem readItems_written {α β : Type} (conv : Str → Option α) (fmt : β → Str) (val : β → α)
    (perline w : Nat) (trail : Str) (xs : List β) (rest : Str)
    (hp : 0 < perline) (hb : perline * w + trail.length ≤ 98) (htr : NoNL trail)
    (hx : ∀ x ∈ xs, (fmt x).length = w ∧ NoNL (fmt x) ∧ conv (fmt x) = some (val x)) :
    readItems conv (perline : Int) (w : Int) xs.length (writeItems perline trail xs.length (xs.map fmt) ++ rest) =
      some (xs.map val, rest) := by
  unfold readItems
  cases xs with
  | nil => simp [writeItems]
  | cons x xs =>
    rw [if_neg (by simp), if_neg (by omega)]
    exact readItemsAux_writeItems conv fmt val perline w trail hp hb htr _ (x :: xs) rest (Nat.le_refl _) hx

theorem noNL_of_allDig {s : Str} (h : AllDig s) : NoNL s := fun c hc =>
  isDig_elim (fun c => (c == '\n') = false) (by decide) (h c hc)

theorem noNL_blanks {k : Nat} : NoNL (blanks k) := List.forall_mem_replicate.mpr (Or.inr rfl)

theorem noNL_signStr {n p : Bool} : NoNL (signStr n p) := by
  cases n <;> cases p <;> decide

theorem noNL_decText (d : Dec) (h : d.WF) : NoNL d.text := by
  rw [d.text_eq]
  refine noNL_append (noNL_signStr) (noNL_append (noNL_of_allDig h.ip)
    (noNL_cons (by decide) (noNL_append (noNL_of_allDig h.fp) ?_)))
  unfold Dec.exText
  cases hex : d.ex with
  | none =>
    intro c hc
    cases hc
  | some e =>
    obtain ⟨hl, hd, _⟩ := h.ex e hex
    have hlc : (e.letter == '\n') = false := by
      simp only [isExpLetter4, Bool.or_eq_true, beq_iff_eq] at hl
      rcases hl with ((h1 | h1) | h1) | h1 <;> rw [h1] <;> decide
    exact noNL_cons hlc (noNL_append (noNL_signStr) (noNL_of_allDig hd))

/-- from a `*_fit` clause of `HBFile.WF` / `RBFile.WF` to what `readItems_written` asks of a field (`hx`). -/
theorem indexField {w i : Nat} (h : i + 1 < 2147483648 ∧ (natDigits (i + 1)).length ≤ w) :
    (fmtInt w (i + 1)).length = w ∧ NoNL (fmtInt w (i + 1)) ∧ convIndex (fmtInt w (i + 1)) = some (i : Int) :=
  ⟨fmtInt_length h.2, noNL_append (noNL_blanks) (noNL_of_allDig (natDigits_allDig _)), convIndex_fmtInt w h.1⟩

theorem valueField {w : Nat} {d : Dec} (h : d.WF ∧ d.text.length ≤ w) :
    (padLeft w d.text).length = w ∧ NoNL (padLeft w d.text) ∧ convValue (padLeft w d.text) = some d.value :=
  ⟨padLeft_length h.2, noNL_append (noNL_blanks) (noNL_decText d h.1), convValue_text w d h.1⟩

theorem readBody_written (cplx : Bool) (nrow valcrd : Nat) (after : Str) {ncol nnz : Nat} {pd rd : IntDesc}
    {vd : RealDesc} {trail : Str} {colptr rowind : List Nat} {vals : List Dec}
    (htr : NoNL trail)
    (hpn : 0 < pd.n) (hpb : pd.n * pd.w + trail.length ≤ 98)
    (hrn : 0 < rd.n) (hrb : rd.n * rd.w + trail.length ≤ 98)
    (hvn : 0 < vd.n) (hvb : vd.n * vd.w + trail.length ≤ 98)
    (hcl : colptr.length = ncol + 1) (hrl : rowind.length = nnz)
    (hvl : vals.length = (if cplx then 2 else 1) * nnz)
    (hcp : ∀ p ∈ colptr, p + 1 < 2147483648 ∧ (natDigits (p + 1)).length ≤ pd.w)
    (hri : ∀ i ∈ rowind, i + 1 < 2147483648 ∧ (natDigits (i + 1)).length ≤ rd.w)
    (hvs : ∀ v ∈ vals, v.WF ∧ v.text.length ≤ vd.w) :
    readBody cplx (nrow : Int) (ncol : Int) (nnz : Int) (valcrd : Int)
        ((pd.n : Int), (pd.w : Int)) ((rd.n : Int), (rd.w : Int)) ((vd.n : Int), (vd.w : Int))
        (writeItems pd.n trail colptr.length (colptr.map fun p => fmtInt pd.w (p + 1)) ++
          (writeItems rd.n trail rowind.length (rowind.map fun i => fmtInt rd.w (i + 1)) ++
            (writeItems vd.n trail vals.length (vals.map fun v => padLeft vd.w v.text) ++ after))) =
      some { nrow := nrow, ncol := ncol, nnz := nnz,
             colptr := colptr.map (fun (p : Nat) => (p : Int)), rowind := rowind.map (fun (p : Nat) => (p : Int)),
             vals := if valcrd = 0 then none else some (vals.map Dec.value) } := by
  unfold readBody
  rw [if_neg (by omega)]
  simp only [Int.toNat_natCast]
  rw [← hcl, readItems_written convIndex _ (fun p : Nat => (p : Int)) pd.n pd.w trail colptr _ hpn hpb htr
    fun p hp => indexField (hcp p hp)]
  simp only
  rw [← hrl, readItems_written convIndex _ (fun p : Nat => (p : Int)) rd.n rd.w trail rowind _ hrn hrb htr
    fun i hi => indexField (hri i hi)]
  simp only
  by_cases hz : valcrd = 0
  · simp [hz]
  · rw [hrl, ← hvl, readItems_written convValue _ Dec.value vd.n vd.w trail vals _ hvn hvb htr
      fun v hv => valueField (hvs v hv)]
    simp [hz]

end Slu.Read
