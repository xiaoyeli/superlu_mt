/- the update loops (axpy / dot) and the dense kernels ?trsv(L,N,U), (U,N,N), (L,T,U), (U,T,N), ?gemv into work, on
   the cells `f … f+nc-1`: each ?trsv is `solveN_foldl` / `solveT_foldl` with singleton rounds, forwards or
   backwards -/
import SluVerif.Proofs.BlasTrsvAbs
import Mathlib.Algebra.Field.Rat
import Mathlib.Tactic.FieldSimp
namespace Slu.Blas
open Finset

theorem rd_foldl_sub (p : Nat → Nat) (g : Nat → Rat) (x : Array Rat) (n : Nat)
    (hp : ∀ t < n, p t < x.size) :
    ((List.range n).foldl (fun x t => wr x (p t) (rd x (p t) - g t)) x).size = x.size ∧
    ∀ q, rd ((List.range n).foldl (fun x t => wr x (p t) (rd x (p t) - g t)) x) q
      = rd x q - ∑ t ∈ range n, if p t = q then g t else 0 := by
  have e : (fun (x : Array Rat) t => wr x (p t) (rd x (p t) - g t))
      = fun x t => wr x (p t) (rd x (p t) + -g t) :=
    funext fun x => funext fun t => by rw [sub_eq_add_neg]
  rw [e]
  refine ⟨size_foldl_acc p _ x n, fun q => ?_⟩
  rw [rd_foldl_acc p _ x n hp q, sub_eq_add_neg, ← sum_neg_distrib]
  exact congrArg _ (sum_congr rfl fun t _ => by split_ifs <;> simp)

theorem rd_foldl_axpy (p : Nat → Nat) (w : Nat → Rat) (c : Nat) (x : Array Rat) (n : Nat)
    (hp : ∀ t < n, p t < x.size) (hc : ∀ t < n, p t ≠ c) :
    ((List.range n).foldl (fun x t => wr x (p t) (rd x (p t) - rd x c * w t)) x).size = x.size ∧
    ∀ q, rd ((List.range n).foldl (fun x t => wr x (p t) (rd x (p t) - rd x c * w t)) x) q
      = rd x q - ∑ t ∈ range n, if p t = q then rd x c * w t else 0 := by
  rw [foldl_read_const c (fun v y t => wr y (p t) (rd y (p t) - v * w t)) n x
    (fun v y t ht => rd_wr_ne (hc t ht).symm)]
  exact rd_foldl_sub p (fun t => rd x c * w t) x n hp

theorem rd_foldl_dot (p : Nat → Nat) (w : Nat → Rat) (c : Nat) (x : Array Rat) (n : Nat)
    (hcs : c < x.size) (hc : ∀ t < n, p t ≠ c) :
    ((List.range n).foldl (fun x t => wr x c (rd x c - rd x (p t) * w t)) x).size = x.size ∧
    ∀ q, rd ((List.range n).foldl (fun x t => wr x c (rd x c - rd x (p t) * w t)) x) q
      = if q = c then rd x c - ∑ t ∈ range n, rd x (p t) * w t else rd x q := by
  induction n with
  | zero => simp
  | succ n ih =>
    obtain ⟨ih1, ih2⟩ := ih (fun t ht => hc t (Nat.lt_succ_of_lt ht))
    refine ⟨by rw [foldl_range_succ, size_wr, ih1], fun q => ?_⟩
    rw [foldl_range_succ, rd_wr, ih1, sum_range_succ]
    have hpn : p n ≠ c := hc n (Nat.lt_succ_self n)
    by_cases h : q = c
    · subst h
      simp only [hcs, and_self, if_true, ih2 q, ih2 (p n), if_neg hpn]
      ring
    · simp only [h, false_and, if_false, ih2 q]

/-- the dot-product phase of the transposed supernode steps:
`for jj < nc: for t < len jj: x[f+jj] -= x[p jj t] * w jj t` -/
def dotsLoop (f nc : Nat) (len : Nat → Nat) (p : Nat → Nat → Nat) (w : Nat → Nat → Rat) (x : Array Rat) :
    Array Rat :=
  (List.range nc).foldl (fun x jj => (List.range (len jj)).foldl
    (fun x t => wr x (f + jj) (rd x (f + jj) - rd x (p jj t) * w jj t)) x) x

theorem rd_dotsLoop (f nc : Nat) (len : Nat → Nat) (p : Nat → Nat → Nat) (w : Nat → Nat → Rat) (x : Array Rat)
    (hsz : f + nc ≤ x.size) (hp : ∀ jj < nc, ∀ t < len jj, p jj t < f ∨ f + nc ≤ p jj t) :
    (dotsLoop f nc len p w x).size = x.size ∧
    ∀ q, rd (dotsLoop f nc len p w x) q
      = if f ≤ q ∧ q < f + nc then rd x q - ∑ t ∈ range (len (q - f)), rd x (p (q - f) t) * w (q - f) t
        else rd x q :=
  foldl_range_inv _ (fun jj (xj : Array Rat) =>
      xj.size = x.size ∧ ∀ q, rd xj q = if f ≤ q ∧ q < f + jj then
        rd x q - ∑ t ∈ range (len (q - f)), rd x (p (q - f) t) * w (q - f) t else rd x q)
    x nc ⟨rfl, fun q => by rw [if_neg (by omega)]⟩
    (fun jj xj hjj ⟨p1, p2⟩ => by
      have hne : ∀ t < len jj, p jj t ≠ f + jj := by
        intro t ht
        have := hp jj hjj t ht
        omega
      obtain ⟨s1, s2⟩ := rd_foldl_dot (p jj) (w jj) (f + jj) xj (len jj) (by omega) hne
      refine ⟨by rw [s1, p1], fun q => ?_⟩
      rw [s2 q]
      by_cases hq : q = f + jj
      · subst hq
        rw [if_pos rfl, if_pos (by omega), p2 (f + jj), if_neg (by omega), Nat.add_sub_cancel_left]
        refine congrArg _ (sum_congr rfl fun t ht => ?_)
        have := hp jj hjj t (mem_range.mp ht)
        rw [p2 (p jj t), if_neg (by omega)]
      · rw [if_neg hq, p2 q]
        by_cases hb : f ≤ q ∧ q < f + jj
        · rw [if_pos hb, if_pos (by omega)]
        · rw [if_neg hb, if_neg (by omega)])

theorem foldl_sub_eq (g : Nat → Rat) (a0 : Rat) (n : Nat) :
    (List.range n).foldl (fun t k => t - g k) a0 = a0 - ∑ k ∈ range n, g k := by
  simp only [sub_eq_add_neg, foldl_add_eq_sum, sum_neg_distrib]

/-- the unit lower triangular matrix a dense block `a` holds -/
def MbL (a : Nat → Nat → Rat) (i k : Nat) : Rat := if k < i then a i k else if k = i then 1 else 0
/-- the upper triangular one, diagonal included -/
def MbU (a : Nat → Nat → Rat) (i k : Nat) : Rat := if i ≤ k then a i k else 0

/-- same size, same content outside the cells `f … f+nc-1` -/
def Frame (f nc : Nat) (x y : Array Rat) : Prop :=
  y.size = x.size ∧ ∀ q, (q < f ∨ f + nc ≤ q) → rd y q = rd x q

/-- round `k` of a forward / backward loop handles unknown `k` / `n-1-k` (in the shape of `hblk`) -/
theorem mem_singleton_fwd {n k : Nat} (hk : k < n) (j : Nat) : j ∈ ({k} : Finset Nat) ↔ j < n ∧ id j = k := by
  rw [mem_singleton]
  exact ⟨fun e => ⟨e ▸ hk, e⟩, fun e => e.2⟩

theorem mem_singleton_rev {n k : Nat} (hk : k < n) (j : Nat) :
    j ∈ ({n - 1 - k} : Finset Nat) ↔ j < n ∧ n - 1 - j = k := by
  rw [mem_singleton]; omega

/-- one column-oriented round on the cells `f … f+nc-1`: the eliminated unknown `j` gets the value `c` (cell `f+j` of
`x1`, which otherwise is `xj`), then the rows `e t` (`R i`: row `i` is among them) lose `c * w i` -/
theorem StepN_colRound {nc f j len : Nat} {M : Nat → Nat → Rat} {x xj x1 y : Array Rat} (hj : j < nc)
    (hsz : f + nc ≤ x.size) (hfr : Frame f nc x xj) {c : Rat}
    (hx1 : x1.size = xj.size ∧ rd x1 (f + j) = c ∧ ∀ q, q ≠ f + j → rd x1 q = rd xj q)
    (hc : rd xj (f + j) = M j j * c)
    (e : Nat → Nat) (R : Nat → Prop) [DecidablePred R] (hR : ∀ i, R i ↔ ∃ t < len, e t = i)
    (he : ∀ t < len, e t < nc ∧ e t ≠ j) (hinj : ∀ t < len, ∀ t' < len, e t = e t' → t = t')
    (w : Nat → Rat) (hM : ∀ i < nc, i ≠ j → M i j = if R i then w i else 0)
    (hy : y = (List.range len).foldl (fun y t => wr y (f + e t) (rd y (f + e t) - c * w (e t))) x1) :
    Frame f nc x y ∧ StepN nc M {j} (fun i => rd xj (f + i)) (fun i => rd y (f + i)) := by
  obtain ⟨p1, p2⟩ := hfr
  obtain ⟨h1, h2, h3⟩ := hx1
  obtain ⟨a, b, s⟩ := rd_foldl_update (fun t => f + e t) (fun t v => v - c * w (e t)) x1 len
    (fun t ht => by have := he t ht; omega) (fun t ht t' ht' h => hinj t ht t' ht' (by omega))
  rw [← hy] at a b s
  have hcell : ∀ i, ¬ R i → rd y (f + i) = rd x1 (f + i) :=
    fun i hi => b _ fun t ht h => hi ((hR i).mpr ⟨t, ht, by omega⟩)
  have hRj : ¬ R j := fun h => by
    obtain ⟨t, ht, e'⟩ := (hR j).mp h
    exact (he t ht).2 e'
  refine ⟨⟨s.trans (h1.trans p1), fun q hq => ?_⟩, StepN_singleton.mpr ⟨?_, fun i hi hne => ?_⟩⟩
  · rw [b q fun t ht => by have := he t ht; omega, h3 q (by omega), p2 q hq]
  · show rd xj (f + j) = M j j * _
    rw [hcell j hRj, h2, hc]
  · show _ = rd xj (f + i) - M i j * _
    rw [hcell j hRj, h2, hM i hi hne]
    by_cases hi' : R i
    · obtain ⟨t, ht, rfl⟩ := (hR i).mp hi'
      rw [if_pos hi', a t ht, h3 _ (by omega), mul_comm]
    · rw [if_neg hi', hcell i hi', h3 _ (by omega), zero_mul, sub_zero]

/-- round `j` eliminates unknown `j`; cell `f+j` is not written in its round, so it is read once (`foldl_read_const`) -/
theorem trsvLNU_spec (a : Nat → Nat → Rat) (nc f : Nat) (x : Array Rat) (hsz : f + nc ≤ x.size) :
    Frame f nc x (trsvLNU a nc f x) ∧
    ∀ i < nc, ∑ k ∈ range nc, MbL a i k * rd (trsvLNU a nc f x) (f + k) = rd x (f + i) := by
  unfold trsvLNU
  refine solveN_foldl (ord := id) (M := MbL a)
    (fun x i => rd x (f + i)) (Frame f nc x) _ x
    (hord := fun _ h => h) (hblk := fun k hk => mem_singleton_fwd hk)
    (hM := fun i _ j _ (h : i < j) => by unfold MbL; rw [if_neg (by omega), if_neg (by omega)])
    (hs := ⟨rfl, fun _ _ => rfl⟩) fun j hj xj hfr => ?_
  rw [foldl_read_const (f + j) (fun v y t => wr y (f + (j + 1 + t)) (rd y (f + (j + 1 + t)) - v * a (j + 1 + t) j))
    _ xj (fun v y t _ => rd_wr_ne (by omega))]
  refine StepN_colRound hj hsz hfr (fun t => j + 1 + t) (fun i => j < i ∧ i < nc) (fun i => a i j)
    (hx1 := ⟨rfl, rfl, fun _ _ => rfl⟩) (hc := ?_)
    (hR := fun i => ⟨fun h => ⟨i - (j + 1), by omega, by omega⟩, fun ⟨t, ht, h⟩ => by omega⟩)
    (he := fun t ht => by omega) (hinj := fun t _ t' _ h => by omega) (hM := fun i hi hne => ?_) (hy := rfl)
  · unfold MbL
    rw [if_neg (Nat.lt_irrefl j), if_pos rfl, one_mul]
  · unfold MbL
    by_cases h : j < i
    · rw [if_pos h, if_pos ⟨h, hi⟩]
    · rw [if_neg h, if_neg (by omega), if_neg fun c => h c.1]

theorem disjoint_Ico_singleton (nc jj : Nat) (h : jj < nc) :
    Disjoint (Ico (nc - jj) nc) ({nc - 1 - jj} : Finset Nat) := by
  rw [disjoint_singleton_right]
  simp only [mem_Ico]
  omega

/-- round `jj` divides cell `j = nc-1-jj` by the diagonal, then eliminates unknown `j` -/
theorem trsvUNN_spec (a : Nat → Nat → Rat) (nc f : Nat) (x : Array Rat) (hsz : f + nc ≤ x.size)
    (hd : ∀ j < nc, a j j ≠ 0) :
    Frame f nc x (trsvUNN a nc f x) ∧
    ∀ i < nc, ∑ k ∈ range nc, MbU a i k * rd (trsvUNN a nc f x) (f + k) = rd x (f + i) := by
  unfold trsvUNN
  refine solveN_foldl (ord := fun j => nc - 1 - j) (M := MbU a)
    (fun x i => rd x (f + i)) (Frame f nc x) _ x
    (hord := fun _ _ => by omega) (hblk := fun k hk => mem_singleton_rev hk)
    (hM := fun i _ j _ (h : nc - 1 - i < nc - 1 - j) => by unfold MbU; rw [if_neg (by omega)])
    (hs := ⟨rfl, fun _ _ => rfl⟩) fun jj hjj xj hfr => ?_
  generalize hj : nc - 1 - jj = j
  have hjlt : j < nc := by omega
  refine StepN_colRound hjlt hsz hfr (fun t => j - 1 - t) (fun i => i < j) (fun i => a i j)
    (hx1 := ⟨size_wr _ _ _, rfl, fun q hq => rd_wr_ne hq⟩) (hc := ?_)
    (hR := fun i => ⟨fun h => ⟨j - 1 - i, by omega, by omega⟩, fun ⟨t, ht, h⟩ => by omega⟩)
    (he := fun t ht => by omega) (hinj := fun t _ t' _ h => by omega) (hM := fun i hi hne => ?_) (hy := rfl)
  · rw [rd_wr_same (by rw [hfr.1]; omega)]
    unfold MbU
    rw [if_pos (le_refl j)]
    field_simp [hd j hjlt]
  · unfold MbU
    exact if_congr (by omega) rfl rfl

theorem sum_reflect_tail (g : Nat → Rat) (nc j : Nat) :
    ∑ t ∈ range (nc - (j + 1)), g (nc - 1 - t) = ∑ k ∈ range nc, if j < k then g k else 0 := by
  have hwin : ∀ k ∈ range nc, (j < k ↔ j + 1 ≤ k ∧ k < nc) := by
    intro k hk
    have := mem_range.mp hk
    omega
  rw [sum_congr rfl fun k hk => if_congr (hwin k hk) rfl rfl,
    sum_row_window g (j + 1) nc nc (Nat.le_refl _), ← sum_range_reflect]
  refine sum_congr rfl fun t ht => ?_
  have := mem_range.mp ht
  congr 1
  omega

theorem sum_le_indicator (g : Nat → Rat) (nc j : Nat) (hj : j < nc) :
    ∑ k ∈ range nc, (if k ≤ j then g k else 0) = ∑ k ∈ range j, g k + g j := by
  rw [← sum_range_succ, ← sum_filter]
  apply sum_congr
  · ext k
    simp only [mem_filter, mem_range]
    omega
  · intro _ _; rfl

/-- round `jj` solves row `j = nc-1-jj` of the transposed system: a dot product with the cells after `j`, visited
from the end -/
theorem trsvLTU_spec (a : Nat → Nat → Rat) (nc f : Nat) (x : Array Rat) (hsz : f + nc ≤ x.size) :
    Frame f nc x (trsvLTU a nc f x) ∧
    ∀ i < nc, ∑ k ∈ range nc, MbL a k i * rd (trsvLTU a nc f x) (f + k) = rd x (f + i) := by
  unfold trsvLTU
  refine solveT_foldl (ord := fun j => nc - 1 - j)
    (M := fun i k => MbL a k i) (fun x i => rd x (f + i)) (Frame f nc x) _ x
    (hord := fun _ _ => by omega) (hblk := fun k hk => mem_singleton_rev hk)
    (hM := fun i _ j _ (h : nc - 1 - i < nc - 1 - j) => by
      unfold MbL
      rw [if_neg (by omega), if_neg (by omega)])
    (hs := ⟨rfl, fun _ _ => rfl⟩) fun jj hjj xj ⟨p1, p2⟩ => ?_
  simp only []
  generalize hj : nc - 1 - jj = j
  have hjlt : j < nc := by omega
  rw [foldl_sub_eq (fun t => a (nc - 1 - t) j * rd xj (f + (nc - 1 - t))),
    sum_reflect_tail (fun k => a k j * rd xj (f + k)) nc j]
  refine ⟨⟨by rw [size_wr, p1], fun q hq => by rw [rd_wr_ne (by omega), p2 q hq]⟩,
    StepT_singleton.mpr ⟨?_, fun i hi hne => rd_wr_ne (by omega)⟩⟩
  show rd xj (f + j) = ∑ k ∈ range nc, MbL a k j * rd (wr xj (f + j) _) (f + k)
  generalize hv : rd xj (f + j) - _ = v
  have hterm : ∀ k ∈ range nc, MbL a k j * rd (wr xj (f + j) v) (f + k)
      = (if j < k then a k j * rd xj (f + k) else 0) + if k = j then v else 0 := by
    intro k _
    unfold MbL
    by_cases h1 : j < k
    · rw [if_pos h1, if_pos h1, if_neg (by omega), rd_wr_ne (by omega), add_zero]
    · rw [if_neg h1, if_neg h1]
      by_cases h2 : j = k
      · subst h2
        rw [if_pos rfl, if_pos rfl, rd_wr_same (by omega)]; ring
      · rw [if_neg h2, if_neg (fun e => h2 e.symm)]; ring
  rw [sum_congr rfl hterm, sum_add_distrib, sum_ite_eq' (range nc) j, if_pos (mem_range.mpr hjlt), ← hv]
  ring

/-- round `j` solves row `j` of the transposed system: a dot product with the cells before `j`, then the division -/
theorem trsvUTN_spec (a : Nat → Nat → Rat) (nc f : Nat) (x : Array Rat) (hsz : f + nc ≤ x.size)
    (hd : ∀ j < nc, a j j ≠ 0) :
    Frame f nc x (trsvUTN a nc f x) ∧
    ∀ i < nc, ∑ k ∈ range nc, MbU a k i * rd (trsvUTN a nc f x) (f + k) = rd x (f + i) := by
  unfold trsvUTN
  refine solveT_foldl (ord := id) (M := fun i k => MbU a k i)
    (fun x i => rd x (f + i)) (Frame f nc x) _ x
    (hord := fun _ h => h) (hblk := fun k hk => mem_singleton_fwd hk)
    (hM := fun i _ j _ (h : i < j) => by
      unfold MbU
      rw [if_neg (by omega)])
    (hs := ⟨rfl, fun _ _ => rfl⟩) fun j hjlt xj ⟨p1, p2⟩ => ?_
  rw [foldl_sub_eq (fun i => a i j * rd xj (f + i))]
  refine ⟨⟨by rw [size_wr, p1], fun q hq => by rw [rd_wr_ne (by omega), p2 q hq]⟩,
    StepT_singleton.mpr ⟨?_, fun i hi hne => rd_wr_ne (by omega)⟩⟩
  show rd xj (f + j) = ∑ k ∈ range nc, MbU a k j * rd (wr xj (f + j) _) (f + k)
  simp only [MbU, ite_mul, zero_mul]
  rw [sum_le_indicator _ nc j hjlt, rd_wr_same (by omega),
    sum_congr rfl fun k hk => by rw [rd_wr_ne (by have := mem_range.mp hk; omega)]]
  field_simp [hd j hjlt]
  ring

theorem gemvWork_spec (a : Nat → Nat → Rat) (nrow nc f : Nat) (x : Array Rat) :
    (gemvWork a nrow nc f x).size = nrow ∧
    ∀ i < nrow, rd (gemvWork a nrow nc f x) i = ∑ j ∈ range nc, a (nc + i) j * rd x (f + j) := by
  unfold gemvWork
  obtain ⟨k1, k2⟩ := rd_foldl_additive
    (fun (w : Array Rat) j => (List.range nrow).foldl (fun w i => wr w i (rd w i + rd x (f + j) * a (nc + i) j)) w)
    (fun j q => if q < nrow then rd x (f + j) * a (nc + q) j else 0) nc (Array.replicate nrow 0)
    (by
      intro w j _ hs
      refine ⟨by rw [size_foldl_acc (fun i => i) (fun i => rd x (f + j) * a (nc + i) j) w nrow, hs], fun q => ?_⟩
      have hb : ∀ k < nrow, k < w.size := by
        intro k hk
        rw [hs]
        simpa using hk
      rw [rd_foldl_acc (fun i => i) (fun i => rd x (f + j) * a (nc + i) j) w nrow hb, sum_ite_eq']
      simp only [mem_range])
  refine ⟨by rw [k1]; simp, fun i hi => ?_⟩
  rw [k2 i, rd_replicate, zero_add]
  exact sum_congr rfl fun j _ => by rw [if_pos hi, mul_comm]

end Slu.Blas
