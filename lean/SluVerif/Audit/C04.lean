import SluVerif.Props.C03Global
import SluVerif.Proofs.SchedMeasure
import SluVerif.Proofs.RelaxSnode
import SluVerif.Proofs.PanelWidth
import SluVerif.Proofs.InitCursor
#print axioms Slu.dequeue_spec
#print axioms Slu.pickPanel_spec
#print axioms Slu.takePanel_spec
#print axioms Slu.schedule_spec
#print axioms Slu.schedule_frame
#print axioms Slu.sysInv_loop
#print axioms Slu.sysInv_finish
#print axioms Slu.sysInv_sched
#print axioms Slu.sysInv_of_initOk
#print axioms Slu.global_invariant
#print axioms Slu.global_tasks_remain
#print axioms Slu.global_queue_bounded
#print axioms Slu.global_handouts_nodup
#print axioms Slu.global_owner_unique
#print axioms Slu.taken_monotone
#print axioms Slu.handout_untaken
#print axioms Slu.progInv_sched
#print axioms Slu.progInv_finish
#print axioms Slu.progress
#print axioms Slu.global_progress
#print axioms Slu.global_not_stuck
#print axioms Slu.phi_step
#print axioms Slu.global_gains_bounded
#print axioms Slu.relaxSnode_ok
#print axioms Slu.relaxSnode_disjoint
#print axioms Slu.relaxSnode_fcols_increasing
#print axioms Slu.relaxSnode_ok_of_check
#print axioms Slu.climb_stops
#print axioms Slu.nextLeaf_stops
#print axioms Slu.relaxSnode_fuel_irrelevant
#print axioms Slu.relaxSnode_top_maximal
#print axioms Slu.pw0_bounds
#print axioms Slu.panelWidth_bounds
#print axioms Slu.panelWidth_no_branch
#print axioms Slu.initStep_cursor
#print axioms Slu.initLoop_cursor
#print axioms Slu.parallelInit_loop_covers
#print axioms Slu.initLoop_frame
#print axioms Slu.parallelInit_queue_cursors
#print axioms Slu.parallelInit_sizes
#print axioms Slu.initLoop_fb
#print axioms Slu.initLoop_state
#print axioms Slu.cursors_increasing
