import SluVerif.Props.C15
#print axioms Slu.C15.table_first_offender
#print axioms Slu.C15.table_zero_iff
#print axioms Slu.C15.tables_sorted
#print axioms Slu.C15.pdgssv_code_table
#print axioms Slu.C15.pdgssv_first_offender_partial
#print axioms Slu.C15.pdgssv_B_type_unchecked
#print axioms Slu.C15.pdgssv_accepts_valid
#print axioms Slu.C15.psgssv_code_table
#print axioms Slu.C15.psgssv_first_offender_partial
#print axioms Slu.C15.psgssv_B_type_unchecked
#print axioms Slu.C15.psgssv_accepts_valid
#print axioms Slu.C15.pcgssv_code_table
#print axioms Slu.C15.pcgssv_first_offender_partial
#print axioms Slu.C15.pcgssv_B_type_unchecked
#print axioms Slu.C15.pcgssv_accepts_valid
#print axioms Slu.C15.pzgssv_code_table
#print axioms Slu.C15.pzgssv_first_offender_partial
#print axioms Slu.C15.pzgssv_B_type_unchecked
#print axioms Slu.C15.pzgssv_accepts_valid
#print axioms Slu.C15.pdgssvx_first_offender
#print axioms Slu.C15.pdgssvx_accepts_valid
#print axioms Slu.C15.psgssvx_first_offender
#print axioms Slu.C15.psgssvx_accepts_valid
#print axioms Slu.C15.pcgssvx_first_offender
#print axioms Slu.C15.pcgssvx_accepts_valid
#print axioms Slu.C15.pzgssvx_first_offender
#print axioms Slu.C15.pzgssvx_accepts_valid
#print axioms Slu.C15.dgstrs_code_table
#print axioms Slu.C15.dgstrs_first_offender_partial
#print axioms Slu.C15.dgstrs_L_reported_as_3
#print axioms Slu.C15.dgstrs_U_reported_as_4
#print axioms Slu.C15.dgstrs_types_unchecked
#print axioms Slu.C15.dgstrs_accepts_valid
#print axioms Slu.C15.dgstrs_conj_documented_and_accepted
#print axioms Slu.C15.sgstrs_code_table
#print axioms Slu.C15.sgstrs_first_offender_partial
#print axioms Slu.C15.sgstrs_L_reported_as_3
#print axioms Slu.C15.sgstrs_U_reported_as_4
#print axioms Slu.C15.sgstrs_types_unchecked
#print axioms Slu.C15.sgstrs_accepts_valid
#print axioms Slu.C15.sgstrs_conj_documented_and_accepted
#print axioms Slu.C15.cgstrs_code_table
#print axioms Slu.C15.cgstrs_first_offender_partial
#print axioms Slu.C15.cgstrs_L_reported_as_3
#print axioms Slu.C15.cgstrs_U_reported_as_4
#print axioms Slu.C15.cgstrs_types_unchecked
#print axioms Slu.C15.cgstrs_accepts_valid
#print axioms Slu.C15.cgstrs_conj_accepted
#print axioms Slu.C15.zgstrs_code_table
#print axioms Slu.C15.zgstrs_first_offender_partial
#print axioms Slu.C15.zgstrs_L_reported_as_3
#print axioms Slu.C15.zgstrs_U_reported_as_4
#print axioms Slu.C15.zgstrs_types_unchecked
#print axioms Slu.C15.zgstrs_accepts_valid
#print axioms Slu.C15.zgstrs_conj_accepted
#print axioms Slu.C15.dgsrfs_first_offender_partial
#print axioms Slu.C15.dgsrfs_code_table
#print axioms Slu.C15.dgsrfs_equed_unchecked
#print axioms Slu.C15.dgsrfs_accepts_valid
#print axioms Slu.C15.sgsrfs_first_offender_partial
#print axioms Slu.C15.sgsrfs_code_table
#print axioms Slu.C15.sgsrfs_equed_unchecked
#print axioms Slu.C15.sgsrfs_accepts_valid
#print axioms Slu.C15.cgsrfs_first_offender_partial
#print axioms Slu.C15.cgsrfs_code_table
#print axioms Slu.C15.cgsrfs_equed_unchecked
#print axioms Slu.C15.cgsrfs_accepts_valid
#print axioms Slu.C15.zgsrfs_first_offender_partial
#print axioms Slu.C15.zgsrfs_code_table
#print axioms Slu.C15.zgsrfs_equed_unchecked
#print axioms Slu.C15.zgsrfs_accepts_valid
#print axioms Slu.C15.dgscon_first_offender
#print axioms Slu.C15.dgscon_accepts_valid
#print axioms Slu.C15.sgscon_first_offender
#print axioms Slu.C15.sgscon_accepts_valid
#print axioms Slu.C15.cgscon_first_offender
#print axioms Slu.C15.cgscon_accepts_valid
#print axioms Slu.C15.zgscon_first_offender
#print axioms Slu.C15.zgscon_accepts_valid
#print axioms Slu.C15.dgsequ_first_offender
#print axioms Slu.C15.dgsequ_accepts_valid
#print axioms Slu.C15.sgsequ_first_offender
#print axioms Slu.C15.sgsequ_accepts_valid
#print axioms Slu.C15.cgsequ_first_offender
#print axioms Slu.C15.cgsequ_accepts_valid
#print axioms Slu.C15.zgsequ_first_offender
#print axioms Slu.C15.zgsequ_accepts_valid
#print axioms Slu.C15.sp_dtrsv_code_table
#print axioms Slu.C15.sp_dtrsv_first_offender_partial
#print axioms Slu.C15.sp_dtrsv_types_unchecked
#print axioms Slu.C15.sp_dtrsv_accepts_valid
#print axioms Slu.C15.sp_strsv_code_table
#print axioms Slu.C15.sp_strsv_first_offender_partial
#print axioms Slu.C15.sp_strsv_types_unchecked
#print axioms Slu.C15.sp_strsv_accepts_valid
#print axioms Slu.C15.sp_ctrsv_code_table
#print axioms Slu.C15.sp_ctrsv_first_offender_partial
#print axioms Slu.C15.sp_ctrsv_types_unchecked
#print axioms Slu.C15.sp_ctrsv_accepts_valid
#print axioms Slu.C15.sp_ztrsv_code_table
#print axioms Slu.C15.sp_ztrsv_first_offender_partial
#print axioms Slu.C15.sp_ztrsv_types_unchecked
#print axioms Slu.C15.sp_ztrsv_accepts_valid
#print axioms Slu.C15.sp_dgemv_code_table
#print axioms Slu.C15.sp_dgemv_first_offender_partial
#print axioms Slu.C15.sp_dgemv_A_type_unchecked
#print axioms Slu.C15.sp_dgemv_accepts_valid
#print axioms Slu.C15.sp_sgemv_code_table
#print axioms Slu.C15.sp_sgemv_first_offender_partial
#print axioms Slu.C15.sp_sgemv_A_type_unchecked
#print axioms Slu.C15.sp_sgemv_accepts_valid
#print axioms Slu.C15.sp_cgemv_code_table
#print axioms Slu.C15.sp_cgemv_first_offender_partial
#print axioms Slu.C15.sp_cgemv_A_type_unchecked
#print axioms Slu.C15.sp_cgemv_accepts_valid
#print axioms Slu.C15.sp_zgemv_code_table
#print axioms Slu.C15.sp_zgemv_first_offender_partial
#print axioms Slu.C15.sp_zgemv_A_type_unchecked
#print axioms Slu.C15.sp_zgemv_accepts_valid
#print axioms Slu.C15.gssv_precedes_effects
#print axioms Slu.C15.gssvx_precedes_effects
#print axioms Slu.C15.gstrs_precedes_effects
#print axioms Slu.C15.gsrfs_precedes_effects
#print axioms Slu.C15.gscon_precedes_effects
#print axioms Slu.C15.gsequ_precedes_effects
#print axioms Slu.C15.trsv_precedes_effects
#print axioms Slu.C15.gemv_precedes_effects
#print axioms Slu.C15.gssv_xerbla_names
#print axioms Slu.C15.gssvx_xerbla_names
#print axioms Slu.C15.gstrs_xerbla_names
#print axioms Slu.C15.gsrfs_xerbla_names
#print axioms Slu.C15.gscon_xerbla_names
#print axioms Slu.C15.gsequ_xerbla_names
#print axioms Slu.C15.trsv_xerbla_names
#print axioms Slu.C15.gemv_xerbla_names
#print axioms Slu.C15.gssvx_C_scan_bound_harmless
